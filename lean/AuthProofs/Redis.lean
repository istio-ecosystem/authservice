/-
  `decode` reads a hash in two halves (`authPart`, `tokPart`) and `time_added`; the writes are described by their net
  effect on the hash (`setTokSteps_run`, `setAuthSteps_run`), the two reads are one function (`read`).
  Then the TTL arithmetic (`visible_refresh`) and the invariant of the prefixes of a token write (`PrefixInv`).
-/
import AuthModel.Store.Redis
namespace AuthModel
namespace Redis

def authPart (h : RHash) : Option AuthState :=
  if h.state.getD [] = [] ∨ h.nonce.getD [] = [] ∨ h.requestedUrl.getD [] = [] ∨ h.codeVerifier.getD [] = []
  then none else some (authOf h)

def tokPart (parses : Str → Bool) (h : RHash) : Option Tokens :=
  if h.idToken.getD [] = [] ∨ parses (h.idToken.getD []) = false then none else some (tokensOf h)

/-- input guard of the refinement: what is written must read back. The handler's writes pass it as long as the token parser
    rejects the empty string (`jwt.Parse("")` fails); no theorem derives it from `WriteOK`, and an oracle that parses `""` refutes it. -/
def TokOK (parses : Str → Bool) (t : Tokens) : Prop := t.idToken ≠ [] ∧ parses t.idToken = true
def AuthOK (a : AuthState) : Prop := a.state ≠ [] ∧ a.nonce ≠ [] ∧ a.requestedUrl ≠ [] ∧ a.codeVerifier ≠ []

/-- a half of the hash is read back exactly when its members pass the input guard -/
theorem authPart_eq_some {h : RHash} {a : AuthState} : authPart h = some a ↔ AuthOK (authOf h) ∧ authOf h = a := by
  simp only [authPart, AuthOK, authOf, Option.ite_none_left_eq_some, not_or, Option.some.injEq]

theorem tokPart_eq_some {parses : Str → Bool} {h : RHash} {t : Tokens} :
    tokPart parses h = some t ↔ TokOK parses (tokensOf h) ∧ tokensOf h = t := by
  simp only [tokPart, TokOK, tokensOf, Option.ite_none_left_eq_some, not_or, Bool.not_eq_false, Option.some.injEq]

/-- what a Redis hash stands for in the plain session map -/
def decode (parses : Str → Bool) (h : RHash) : Option Sess :=
  if !hasFields h then none
  else some { auth := authPart h, tokens := tokPart parses h, created := h.timeAdded.getD 0 }

/-- invariant of keys written by the store when no timeout is configured -/
def RInv (h : RHash) : Prop := (hasFields h = true → h.timeAdded.isSome = true) ∧ h.expireAt = none

theorem RInv_empty : RInv {} := ⟨(nomatch ·), rfl⟩

theorem visible_of_noTTL (now : Int) {h : RHash} (hi : h.expireAt = none) : visible now h = h := by
  simp [visible, hi]

theorem eq_of_not_hasFields {h : RHash} (hf : hasFields h = false) : h = { expireAt := h.expireAt } := by
  cases h
  simp only [hasFields, Bool.or_eq_false_iff, Option.isSome_eq_false_iff, Option.isNone_iff_eq_none] at hf
  simp_all

theorem hasFields_of_timeAdded {h : RHash} (hta : h.timeAdded.isSome = true) : hasFields h = true := by
  rw [hasFields, hta, Bool.or_true]

theorem decode_isSome (parses : Str → Bool) (h : RHash) : (decode parses h).isSome = hasFields h := by
  unfold decode; cases hasFields h <;> rfl

theorem decode_bind_auth (parses : Str → Bool) (h : RHash) : (decode parses h).bind (·.auth) = authPart h := by
  unfold decode
  cases hf : hasFields h
  · rw [eq_of_not_hasFields hf]; rfl
  · rfl

theorem decode_bind_tokens (parses : Str → Bool) (h : RHash) : (decode parses h).bind (·.tokens) = tokPart parses h := by
  unfold decode
  cases hf : hasFields h
  · rw [eq_of_not_hasFields hf]; rfl
  · rfl

theorem refresh_noTimeout (now : Int) (ta : Option Int) {h : RHash} (hta : h.timeAdded.isSome = true) :
    refresh 0 0 now ta h = (h, true) := by
  obtain ⟨x, e⟩ := Option.isSome_iff_exists.1 hta
  cases ta <;> simp [refresh, refreshTA, e]

/-- `HSETNX time_added now`, the last hash command of every write -/
def stamp (now : Int) (h : RHash) : RHash := if h.timeAdded.isNone then { h with timeAdded := some now } else h

theorem stamp_eq (now : Int) (h : RHash) : stamp now h = { h with timeAdded := some (h.timeAdded.getD now) } := by
  rcases h with ⟨_, _, _, _, _, _, _, _, ta, _⟩
  cases ta <;> rfl

/-- net effect of the commands of `SetTokenResponse` on the token members -/
def putTok (t : Tokens) (h : RHash) : RHash :=
  { h with idToken := some t.idToken,
           accessToken := if t.accessToken = [] then none else some t.accessToken,
           accessExp := t.accessExp,
           refreshToken := if t.refreshToken = [] then none else some t.refreshToken }

theorem setTokSteps_run (t : Tokens) (now : Int) (h : RHash) :
    runSteps (setTokSteps t now) h = stamp now (putTok t h) := by
  -- once it is known which optional members `t` has, the list of steps is concrete and evaluates
  rcases t with ⟨i, a, r, e⟩
  cases a <;> cases r <;> cases e <;> rfl

theorem tokensOf_putTok (t : Tokens) (h : RHash) : tokensOf (putTok t h) = t := by
  rcases t with ⟨i, a, r, e⟩
  cases a <;> cases r <;> rfl

/-- the `HMSET` of `SetAuthorizationState` -/
def putAuth (a : AuthState) (h : RHash) : RHash :=
  { h with state := some a.state, nonce := some a.nonce, requestedUrl := some a.requestedUrl,
           codeVerifier := some a.codeVerifier }

theorem setAuthSteps_run (a : AuthState) (now : Int) (h : RHash) :
    runSteps (setAuthSteps a now) h = stamp now (putAuth a h) := rfl

/-- `setTok` and `setAuth`: hash commands with net effect `x`, then `HSETNX time_added`, then `refreshExpiration` -/
theorem write_refines {parses : Str → Bool} (now : Int) {h : RHash} (x : RHash) {a : Option AuthState} {t : Option Tokens}
    (hi : RInv h) (hta : x.timeAdded = h.timeAdded) (hex : x.expireAt = none)
    (ha : authPart x = a) (ht : tokPart parses x = t) :
    (refresh 0 0 now none (stamp now x)).2 = true ∧ RInv (refresh 0 0 now none (stamp now x)).1 ∧
    decode parses (refresh 0 0 now none (stamp now x)).1 =
      some { auth := a, tokens := t, created := match decode parses h with
        | none => now
        | some s => s.created } := by
  rw [stamp_eq, refresh_noTimeout _ _ rfl]
  refine ⟨rfl, ⟨fun _ => rfl, hex⟩, ?_⟩
  -- `created` is the old `time_added`, or `now` on a fresh key
  unfold decode
  subst ha ht
  rw [hasFields_of_timeAdded (h := { x with timeAdded := some (x.timeAdded.getD now) }) rfl, hta]
  cases hf : hasFields h
  · rw [eq_of_not_hasFields hf]; rfl
  · obtain ⟨ta, e⟩ := Option.isSome_iff_exists.1 (hi.1 hf)
    rw [e]; rfl

theorem setTok_refines (parses : Str → Bool) (now : Int) (t : Tokens) (h : RHash)
    (hi : RInv h) (ht : TokOK parses t) :
    (setTok 0 0 now t h).2 = true ∧ RInv (setTok 0 0 now t h).1 ∧
    decode parses (setTok 0 0 now t h).1 = some (match decode parses h with
      | none => { auth := none, tokens := some t, created := now }
      | some s => { s with tokens := some t }) := by
  have := write_refines now (putTok t h) hi rfl hi.2 (decode_bind_auth parses h).symm
    (tokPart_eq_some.2 ⟨ht, tokensOf_putTok t h⟩)
  rw [setTok, visible_of_noTTL now hi.2, setTokSteps_run]
  cases hd : decode parses h <;> rw [hd] at this <;> exact this

theorem setAuth_refines (parses : Str → Bool) (now : Int) (a : AuthState) (h : RHash)
    (hi : RInv h) (ha : AuthOK a) :
    (setAuth 0 0 now a h).2 = true ∧ RInv (setAuth 0 0 now a h).1 ∧
    decode parses (setAuth 0 0 now a h).1 = some (match decode parses h with
      | none => { auth := some a, tokens := none, created := now }
      | some s => { s with auth := some a }) := by
  have := write_refines now (putAuth a h) hi rfl hi.2 (authPart_eq_some.2 ⟨ha, rfl⟩)
    (decode_bind_tokens parses h).symm
  rw [setAuth, visible_of_noTTL now hi.2, setAuthSteps_run]
  cases hd : decode parses h <;> rw [hd] at this <;> exact this

/-- the common shape of `getTok` and `getAuth`, on the visible hash -/
def read {α} (part : RHash → Option α) (abs idle now : Int) (v : RHash) : RHash × SRes (Option α) :=
  match part v with
  | none => (v, .ok none)
  | some a => ((refresh abs idle now v.timeAdded v).1,
      if (refresh abs idle now v.timeAdded v).2 then .ok (some a) else .err)

theorem read_ok_some {α} {part : RHash → Option α} {abs idle now : Int} {v : RHash} {a : α}
    (h : (read part abs idle now v).2 = .ok (some a)) : part v = some a := by
  unfold read at h
  split at h
  · cases h
  · split at h <;> cases h
    assumption

theorem getTok_eq_read (parses : Str → Bool) (abs idle now : Int) (h : RHash) :
    getTok parses abs idle now h = read (tokPart parses) abs idle now (visible now h) := by
  by_cases h1 : (visible now h).idToken.getD [] = []
  · simp only [getTok, read, tokPart, h1, true_or, if_true]
  · cases h2 : parses ((visible now h).idToken.getD [])
    · simp [getTok, read, tokPart, h1, h2]
    · -- the token is there and parses: both sides refresh the expiry and answer by its result
      simp [getTok, read, tokPart, h1, h2]
      split <;> rfl

theorem getAuth_eq_read (abs idle now : Int) (h : RHash) :
    getAuth abs idle now h = read authPart abs idle now (visible now h) := by
  by_cases h1 : (visible now h).state.getD [] = [] ∨ (visible now h).nonce.getD [] = [] ∨
      (visible now h).requestedUrl.getD [] = [] ∨ (visible now h).codeVerifier.getD [] = []
  · simp only [getAuth, read, authPart, h1, if_true]
  · -- all four members are there: both sides refresh the expiry and answer by its result
    simp only [getAuth, read, authPart, h1, if_false]
    split <;> rfl

theorem read_noTimeout {α} {parses : Str → Bool} {f : Sess → Option α} {part : RHash → Option α}
    (hpart : ∀ h, (decode parses h).bind f = part h) (now : Int) {h : RHash} (hi : RInv h) :
    read part 0 0 now h = (h, .ok ((decode parses h).bind f)) := by
  simp only [read, ← hpart]
  cases hd : decode parses h with
  | none => rfl
  | some s =>
    have hta := hi.1 (by rw [← decode_isSome parses h, hd]; rfl)
    cases hs : f s with
    | none => simp [hs]
    | some a => simp [hs, refresh_noTimeout now _ hta]

theorem getTok_refines (parses : Str → Bool) (now : Int) (h : RHash) (hi : RInv h) :
    getTok parses 0 0 now h = (h, .ok ((decode parses h).bind (·.tokens))) := by
  rw [getTok_eq_read, visible_of_noTTL now hi.2]
  exact read_noTimeout (decode_bind_tokens parses) now hi

theorem getAuth_refines (parses : Str → Bool) (now : Int) (h : RHash) (hi : RInv h) :
    getAuth 0 0 now h = (h, .ok ((decode parses h).bind (·.auth))) := by
  rw [getAuth_eq_read, visible_of_noTTL now hi.2]
  exact read_noTimeout (decode_bind_auth parses) now hi

/-- clearing the login state keeps tokens and creation time; it fails exactly on an absent key -/
theorem clearAuth_refines (parses : Str → Bool) (now : Int) (h : RHash) (hi : RInv h) :
    (clearAuth 0 0 now h).2 = (decode parses h).isSome ∧ RInv (clearAuth 0 0 now h).1 ∧
    decode parses (clearAuth 0 0 now h).1 = (decode parses h).map ({ · with auth := none }) := by
  rw [decode_isSome]
  cases hf : hasFields h
  · rw [eq_of_not_hasFields hf, hi.2, show clearAuth 0 0 now {} = ({}, false) from rfl]
    exact ⟨rfl, RInv_empty, rfl⟩
  · have hta := hi.1 hf
    have hx : hasFields { h with state := none, nonce := none, requestedUrl := none } = true :=
      hasFields_of_timeAdded hta
    rw [clearAuth, visible_of_noTTL now hi.2, norm, if_pos hx, refresh_noTimeout now none (by exact hta)]
    refine ⟨rfl, ⟨fun _ => hta, hi.2⟩, ?_⟩
    unfold decode
    rw [hf, hx]; rfl

/-- `EXPIREAT` uses whole seconds: the stored expiry is within one second below the computed time -/
theorem floor_bounds (x : Int) : Int.fdiv x sec * sec ≤ x ∧ x < Int.fdiv x sec * sec + sec := by
  unfold sec
  rw [Int.fdiv_eq_ediv_of_nonneg x (by decide)]; omega

theorem expiryTime_le (abs idle now ta : Int) :
    (abs > 0 → expiryTime abs idle now ta ≤ ta + abs) ∧ (idle > 0 → expiryTime abs idle now ta ≤ now + idle) := by
  unfold expiryTime
  omega

/-- the expiry is exactly the smaller of the configured limits (over the non-zero ones) -/
theorem expiryTime_formula (abs idle now ta : Int) :
    expiryTime abs idle now ta =
      if abs = 0 then now + idle else if idle = 0 then ta + abs else min (ta + abs) (now + idle) := by
  have hmin : (if now + idle < ta + abs then now + idle else ta + abs) = min (ta + abs) (now + idle) := by
    split
    · exact (Int.min_eq_right (Int.le_of_lt ‹_›)).symm
    · exact (Int.min_eq_left (Int.not_lt.1 ‹_›)).symm
  rw [expiryTime, hmin]

/-- what the server shows of a key with a TTL: the key strictly before its `EXPIREAT` second, nothing from then on -/
theorem visible_of_ttl (now' : Int) (h : RHash) (e : Int) (he : h.expireAt = some e) :
    visible now' h = if now' < e * sec then h else {} := by
  unfold visible; rw [he]

/-- `refreshExpiration` with a known creation time and a timeout configured: `EXPIREAT` at the whole second below the
    computed expiry, which deletes the key if that second is not in the future -/
theorem refresh_with_timeout (abs idle now ta : Int) (h : RHash) (hto : ¬(abs = 0 ∧ idle = 0)) (hf : hasFields h = true) :
    refresh abs idle now (some ta) h =
      (if Int.fdiv (expiryTime abs idle now ta) sec * sec ≤ now then {}
       else { h with expireAt := some (Int.fdiv (expiryTime abs idle now ta) sec) }, true) := by
  simp only [refresh, refreshTA, expireAtCmd, hto, hf, if_false, Bool.not_true, Bool.false_eq_true]

/-- ... as the server shows it at `now'`: it is there while `t0` and `now'` are before the `EXPIREAT` second -/
theorem visible_refresh (abs idle t0 ta now' : Int) (h : RHash) (hto : ¬(abs = 0 ∧ idle = 0)) (hf : hasFields h = true) :
    visible now' (refresh abs idle t0 (some ta) h).1 =
      if t0 < Int.fdiv (expiryTime abs idle t0 ta) sec * sec ∧ now' < Int.fdiv (expiryTime abs idle t0 ta) sec * sec
      then { h with expireAt := some (Int.fdiv (expiryTime abs idle t0 ta) sec) } else {} := by
  rw [refresh_with_timeout abs idle t0 ta h hto hf]
  by_cases h1 : Int.fdiv (expiryTime abs idle t0 ta) sec * sec ≤ t0
  · rw [if_pos h1, if_neg (fun c => absurd h1 (Int.not_le.2 c.1))]; rfl
  · rw [if_neg h1, visible_of_ttl _ _ _ rfl]
    simp only [Int.not_le.1 h1, true_and]

theorem refresh_cases (abs idle now : Int) (arg : Option Int) (h : RHash) :
    (refresh abs idle now arg h).1 = {} ∨ ∃ e, (refresh abs idle now arg h).1 = { h with expireAt := e } := by
  unfold refresh refreshTA
  split
  · exact .inl rfl
  · by_cases h0 : abs = 0 ∧ idle = 0
    · exact .inr ⟨h.expireAt, congrArg Prod.fst (if_pos h0)⟩
    · rw [if_neg h0, expireAtCmd]
      by_cases h1 : (!hasFields h) = true
      · exact .inr ⟨h.expireAt, if_pos h1⟩
      · rw [if_neg h1]
        split
        · exact .inl rfl
        · exact .inr ⟨_, rfl⟩

/-- `refreshExpiration` never alters `time_added` of a key it leaves in place -/
theorem refresh_timeAdded {abs idle now : Int} {arg : Option Int} {h : RHash}
    (hf : hasFields (refresh abs idle now arg h).1 = true) :
    (refresh abs idle now arg h).1.timeAdded = h.timeAdded := by
  rcases refresh_cases abs idle now arg h with e | ⟨_, e⟩ <;> rw [e] at hf ⊢
  -- the key was deleted: excluded by `hf` (the other case, only `expireAt` changed, is closed by `rw`'s `rfl`)
  exact nomatch hf

/-- ACTIVITY NEVER MOVES THE CREATION TIME: every write uses HSETNX for `time_added`. -/
theorem write_keeps_timeAdded {abs idle now : Int} {x : RHash} {ta : Int} (hta : x.timeAdded = some ta)
    (hf : hasFields (refresh abs idle now none (stamp now x)).1 = true) :
    (refresh abs idle now none (stamp now x)).1.timeAdded = some ta := by
  rw [refresh_timeAdded hf, stamp_eq]
  exact congrArg (fun o => some (o.getD now)) hta

theorem read_keeps_timeAdded {α} {part : RHash → Option α} {abs idle now : Int} {v : RHash}
    (hf : hasFields (read part abs idle now v).1 = true) : (read part abs idle now v).1.timeAdded = v.timeAdded := by
  unfold read at hf ⊢
  split at hf
  · rfl
  · exact refresh_timeAdded hf

/-- every token member of `x` is the one of `h`, the one of `t'`, or absent -/
def PrefixInv (h : RHash) (t' : Tokens) (x : RHash) : Prop :=
  (x.idToken = h.idToken ∨ x.idToken = some t'.idToken ∨ x.idToken = none) ∧
  (x.accessToken = h.accessToken ∨ x.accessToken = some t'.accessToken ∨ x.accessToken = none) ∧
  (x.refreshToken = h.refreshToken ∨ x.refreshToken = some t'.refreshToken ∨ x.refreshToken = none) ∧
  (x.accessExp = h.accessExp ∨ x.accessExp = t'.accessExp ∨ x.accessExp = none)

theorem norm_inv {h : RHash} {t' : Tokens} {x : RHash} (hx : PrefixInv h t' x) : PrefixInv h t' (norm x) := by
  unfold norm; split
  · exact hx
  · simp [PrefixInv]

theorem step_inv (h : RHash) (t' : Tokens) (now : Int) (f : RHash → RHash) (hf : f ∈ setTokSteps t' now)
    (x : RHash) (hx : PrefixInv h t' x) : PrefixInv h t' (f x) := by
  obtain ⟨h1, h2, h3, h4⟩ := hx
  simp only [setTokSteps, List.mem_append, List.mem_ite_nil_right, List.mem_singleton] at hf
  rcases hf with ((((rfl | ⟨_, rfl⟩) | ⟨_, rfl⟩) | ⟨_, rfl⟩) | ⟨_, rfl⟩) | rfl
  · exact ⟨.inr (.inl rfl), h2, h3, h4⟩
  · exact ⟨h1, .inr (.inl rfl), h3, h4⟩
  · exact ⟨h1, h2, h3, .inr (.inl rfl)⟩
  · exact ⟨h1, h2, .inr (.inl rfl), h4⟩
  · -- HDEL of the stale members: each token member is removed or left as it was
    refine norm_inv ⟨h1, ?_, ?_, ?_⟩
    · dsimp only; split <;> simp [h2]
    · dsimp only; split <;> simp [h3]
    · dsimp only; split <;> simp [h4]
  · dsimp only; split <;> exact ⟨h1, h2, h3, h4⟩

end Redis
end AuthModel
