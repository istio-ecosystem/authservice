/-
  `ExtAuthZFilter.Check` as translated from /repo (AuthModel/Generated/CodeAuthz.lean) against a functional
  specification over the same protobuf mirrors (`checkSpec`): trigger rules first; then the first chain, in configuration
  order, whose criterion the request satisfies judges; its filters run one after the other on the response accumulated so
  far and evaluation stops at the first filter that does not allow (its response is returned as it is) or fails (the error
  is returned, no verdict); no matching chain: denied unless unmatched requests are explicitly allowed.

  `code_check : Code.Check env handlers e req = checkSpec env handlers e req` holds for EVERY filter object, request and
  handler behaviour - including the run-time panics of the Go code (nil messages, a filter whose type `Check` does not
  know, a handler that leaves `resp.Status` nil), which are `.error` values on both sides.  The two nested `for` loops with
  early returns are related to the recursive specification through `inner_rel` / `outer_rel`.
-/
import AuthProofs.CodeEquiv
namespace AuthModel
open Str Go Pb

/-- one filter of the judging chain, given the response accumulated so far: `.inl` = Check returns this, `.inr` = the
    filter allowed, go on with the response it left behind.  `run {}` runs the NIL handler (`Pb.Handler` is nil by
    default): for a filter type `Check` does not know, its `h` is still the nil interface value it was declared as. -/
def filterStepPb (h : Pb.Handlers) (req : CheckRequest) (f : Pb.Filter) (resp : CheckResponse) :
    M (Sum (CheckResponse × Go.Error) CheckResponse) :=
  let run (hd : Pb.Handler) : M (Sum (CheckResponse × Go.Error) CheckResponse) :=
    match hd.Process! req resp with
    | .error e => .error e
    | .ok (resp', err) =>
      if !err.isNil then .ok (.inl ({ isNil := true }, err))
      else match resp'.Status! with
        | .error e => .error e
        | .ok st => match st.Code! with
          | .error e => .error e
          | .ok code => if code == 0 then .ok (.inr resp') else .ok (.inl (resp', {}))
  if f.isNil then nilPanic else
  match f.Type_ with
  | .Mock ft => run (h.newMock ft.Mock)
  | .Oidc ft =>
    if !(h.newOIDC ft.Oidc).2.isNil then .ok (.inl ({ isNil := true }, (h.newOIDC ft.Oidc).2))
    else run (h.newOIDC ft.Oidc).1
  | _ => run {}

def runFiltersPb (h : Pb.Handlers) (req : CheckRequest) : List Pb.Filter → CheckResponse → M (CheckResponse × Go.Error)
  | [], resp => .ok (resp, {})
  | f :: fs, resp =>
    match filterStepPb h req f resp with
    | .error e => .error e
    | .ok (.inl r) => .ok r
    | .ok (.inr resp') => runFiltersPb h req fs resp'

abbrev InnerSt := Option (CheckResponse × Go.Error) × Go.Error × CheckResponse

/-- the inner loop, related to `runFiltersPb` up to the two bookkeeping components of the loop state -/
def InnerRel (x : M InnerSt) (y : M (CheckResponse × Go.Error)) : Prop :=
  match x, y with
  | .error a, .error b => a = b
  | .ok (some r, _, _), .ok r' => r = r'
  | .ok (none, _, resp), .ok r' => r' = (resp, {})
  | _, _ => False

/-- what one pass of the inner loop body does, against `filterStepPb` -/
def FilterRel (x : M (Sum (CheckResponse × Go.Error) CheckResponse)) (y : M (ForInStep InnerSt)) : Prop :=
  match x, y with
  | .error a, .error b => a = b
  | .ok (.inl res), .ok (.done (some res', _, _)) => res = res'
  | .ok (.inr r'), .ok (.yield (none, _, r'')) => r' = r''
  | _, _ => False

theorem inner_rel (h : Pb.Handlers) (req : CheckRequest) (body : Pb.Filter → InnerSt → M (ForInStep InnerSt))
    (hb : ∀ f e r, FilterRel (filterStepPb h req f r) (body f (none, e, r))) :
    ∀ fs e r v, forIn fs (none, e, r) body = v → InnerRel v (runFiltersPb h req fs r) := by
  intro fs
  induction fs with
  | nil => rintro e r _ rfl; exact rfl
  | cons f t ih =>
    rintro e r _ rfl
    have hf := hb f e r
    rw [List.forIn_cons, runFiltersPb]
    -- the three ways `FilterRel` holds: both fail, both return, both go on
    unfold FilterRel at hf
    split at hf
    · next h1 h2 => simp only [h1, h2, error_bind, InnerRel, hf]
    · next h1 h2 => simp only [h1, h2, ok_bind, pure_eq_ok, InnerRel, hf]
    · next h1 h2 => rw [h1, h2, hf]; exact ih _ _ _ rfl
    · exact hf.elim

def chainStepPb (_env : Go.Env) (h : Pb.Handlers) (req : CheckRequest) (c : Pb.FilterChain) : M (Option (CheckResponse × Go.Error)) :=
  if c.isNil then nilPanic
  else if !chainMatches (matchOf c.Match) (httpOf req).GetHeaders then .ok none
  else if c.Filters.length == 0 then .ok (some (Code.allow, {}))
  else match runFiltersPb h req c.Filters CheckResponse.new with
    | .error e => .error e
    | .ok r => .ok (some r)

def runChainsPb (env : Go.Env) (h : Pb.Handlers) (req : CheckRequest) : List Pb.FilterChain → M (Option (CheckResponse × Go.Error))
  | [] => .ok none
  | c :: cs =>
    match chainStepPb env h req c with
    | .error e => .error e
    | .ok (some r) => .ok (some r)
    | .ok none => runChainsPb env h req cs

def checkSpec (env : Go.Env) (h : Pb.Handlers) (e : Pb.ExtAuthZFilter) (req : CheckRequest) : M (CheckResponse × Go.Error) :=
  if e.isNil then nilPanic else if e.cfg.isNil then nilPanic
  else if !mustTrigger (reOf env) (e.cfg.TriggerRules.map ruleOf) (httpOf req).GetPath then .ok (Code.allow, {})
  else match runChainsPb env h req e.cfg.Chains with
    | .error x => .error x
    | .ok (some r) => .ok r
    | .ok none => .ok (if e.cfg.AllowUnmatchedRequests then (Code.allow, {}) else (Code.deny 7 (B "no chains matched"), {}))

abbrev OuterSt := Option (CheckResponse × Go.Error) × Go.Error

def OuterRel (x : M OuterSt) (y : M (Option (CheckResponse × Go.Error))) : Prop :=
  match x, y with
  | .error a, .error b => a = b
  | .ok (some r, _), .ok (some r') => r = r'
  | .ok (none, _), .ok none => True
  | _, _ => False

def ChainRel (x : M (Option (CheckResponse × Go.Error))) (y : M (ForInStep OuterSt)) : Prop :=
  match x, y with
  | .error a, .error b => a = b
  | .ok (some r), .ok (.done (some r', _)) => r = r'
  | .ok none, .ok (.yield (none, _)) => True
  | _, _ => False

theorem outer_rel (env : Go.Env) (h : Pb.Handlers) (req : CheckRequest) (body : Pb.FilterChain → OuterSt → M (ForInStep OuterSt))
    (hb : ∀ c e, ChainRel (chainStepPb env h req c) (body c (none, e))) :
    ∀ cs e v, forIn cs (none, e) body = v → OuterRel v (runChainsPb env h req cs) := by
  intro cs
  induction cs with
  | nil => rintro e _ rfl; exact trivial
  | cons c t ih =>
    rintro e _ rfl
    have hc := hb c e
    rw [List.forIn_cons, runChainsPb]
    unfold ChainRel at hc
    split at hc
    · next h1 h2 => simp only [h1, h2, error_bind, OuterRel, hc]
    · next h1 h2 => simp only [h1, h2, ok_bind, pure_eq_ok, OuterRel, hc]
    · next h1 h2 => rw [h1, h2]; exact ih _ _ rfl
    · exact hc.elim

theorem code_check (env : Go.Env) (h : Pb.Handlers) (e : Pb.ExtAuthZFilter) (req : Pb.CheckRequest) :
    Code.Check env h e req = checkSpec env h e req := by
  unfold Code.Check checkSpec
  cases he : e.isNil
  · cases hc : e.cfg.isNil
    · -- the `let`s of `Check` that depend on no loop variable, in source order: `env`, `response`, `err`, the `resp`
      -- the filter loop starts from, and `hd0`: the nil handler `h` is declared as in the body of the filter loop.
      -- `-zeta` throughout: that body keeps its join point (see `tail` below)
      extract_lets _ _ _ _ hd0
      simp -zeta only [go_simp, he, hc, code_mustTriggerCheck, code_matches]
      cases mustTrigger (reOf env) (List.map ruleOf e.cfg.TriggerRules) (httpOf req).GetPath
      · rfl
      -- Both loops alike: name the loop, relate it to the recursive specification (`outer_rel`, `inner_rel`) by
      -- relating its body to one step, then read the relation off case by case.
      generalize hv : forIn (m := Go.M) e.cfg.Chains (_ : OuterSt) _ = v
      have hrel : OuterRel v (runChainsPb env h req e.cfg.Chains) := by
        refine outer_rel env h req _ (fun c e0 => ?_) _ _ _ hv
        clear hv
        unfold chainStepPb
        cases c.isNil
        · extract_lets _
          simp -zeta only [go_simp]
          cases chainMatches (matchOf c.Match) (httpOf req).GetHeaders
          · exact trivial
          simp -zeta only [go_simp, List.isEmpty_iff_length_eq_zero, beq_iff_eq]
          by_cases hl : c.Filters.length = 0
          · rw [if_pos hl, if_pos hl]; exact rfl
          rw [if_neg hl, if_neg hl]
          generalize hw : forIn (m := Go.M) c.Filters (_ : InnerSt) _ = w
          have hin : InnerRel w (runFiltersPb h req c.Filters CheckResponse.new) := by
            refine inner_rel h req _ (fun f e1 r1 => ?_) _ _ _ _ hw
            clear hw
            unfold filterStepPb
            -- `run` is the local function of `filterStepPb`; the rest is the translated body: how it reads its loop
            -- state (`resp` is the third component) and `jp`, the join point every arm of its `switch` ends in.
            -- `jp` is `run`, for every handler (both call `Process`, then read `Status.Code`, and fail or stop at the
            -- same places)
            extract_lets run _ _ resp jp
            have tail : ∀ hd, FilterRel (run hd) (jp () e1 hd) := by
              intro hd
              simp only [run, jp]
              cases hd.Process! req r1 with
              | error a => exact rfl
              | ok pr =>
                simp only [ok_bind]
                cases pr.2.isNil
                · exact rfl
                · simp only [go_simp]
                  cases pr.1.Status! with
                  | error a => exact rfl
                  | ok st =>
                    simp only [ok_bind]
                    cases st.Code! with
                    | error a => exact rfl
                    | ok code =>
                      simp only [ok_bind]
                      cases code == 0 <;> exact rfl
            cases f.isNil
            · simp -zeta only [go_simp]
              cases f.Type_ <;> dsimp -zeta only
              case Oidc ft =>
                cases hoe : (h.newOIDC ft.Oidc).2.isNil <;> simp only [hoe]
                · exact rfl
                · exact tail _
              case Mock ft => exact tail _
              all_goals exact tail hd0
            · exact rfl
          clear hw
          unfold InnerRel at hin
          split at hin
          · next heq => simp only [heq, hin]; exact rfl
          · next heq => simp only [heq, hin]; exact rfl
          · next heq => simp only [heq, hin]; exact rfl
          · exact hin.elim
        · exact rfl
      clear hv
      unfold OuterRel at hrel
      split at hrel
      · next heq => simp only [heq, hrel, error_bind]
      · next heq => simp only [heq, hrel, ok_bind]
      · next heq => simp only [heq, ok_bind, ite_ok]
      · exact hrel.elim
    · -- `e.cfg` is nil: the first selection through it panics
      rw [show e.cfg! = .ok e.cfg by simp only [go_simp, he], ok_bind,
        show e.cfg.TriggerRules! = nilPanic by simp only [Config.TriggerRules!, hc, if_true]]
      rfl
  · rw [show e.cfg! = nilPanic by simp only [ExtAuthZFilter.cfg!, he, if_true]]
    rfl

theorem runChainsPb_skip (env : Go.Env) (h : Pb.Handlers) (req : CheckRequest) (pre cs : List Pb.FilterChain)
    (hpre : ∀ x ∈ pre, x.isNil = false ∧ chainMatches (matchOf x.Match) (httpOf req).GetHeaders = false) :
    runChainsPb env h req (pre ++ cs) = runChainsPb env h req cs := by
  induction pre with
  | nil => rfl
  | cons x t ih =>
    simp only [List.cons_append, runChainsPb, chainStepPb, hpre x List.mem_cons_self]
    exact ih fun y hy => hpre y (List.mem_cons_of_mem _ hy)

theorem runChainsPb_first_match (env : Go.Env) (h : Pb.Handlers) (req : CheckRequest) (pre post : List Pb.FilterChain) (c : Pb.FilterChain)
    (hpre : ∀ x ∈ pre, x.isNil = false ∧ chainMatches (matchOf x.Match) (httpOf req).GetHeaders = false)
    (hc : c.isNil = false ∧ chainMatches (matchOf c.Match) (httpOf req).GetHeaders = true) :
    runChainsPb env h req (pre ++ c :: post) = chainStepPb env h req c := by
  rw [runChainsPb_skip env h req pre _ hpre, runChainsPb]
  -- a chain that matches answers or fails; it never says "go on"
  simp only [chainStepPb, hc]
  cases c.Filters.length == 0
  · cases runFiltersPb h req c.Filters CheckResponse.new <;> rfl
  · rfl

theorem runChainsPb_none (env : Go.Env) (h : Pb.Handlers) (req : CheckRequest) (cs : List Pb.FilterChain)
    (hcs : ∀ x ∈ cs, x.isNil = false ∧ chainMatches (matchOf x.Match) (httpOf req).GetHeaders = false) :
    runChainsPb env h req cs = .ok none := by
  simpa [runChainsPb] using runChainsPb_skip env h req cs [] hcs

/-- filters that allow: each leaves a response with an OK status and no error -/
def StepAllows (h : Pb.Handlers) (req : CheckRequest) (f : Pb.Filter) (r r' : CheckResponse) : Prop :=
  filterStepPb h req f r = .ok (.inr r')

/-- `pre` allow one after the other, taking the response from `r` to `r'` -/
inductive AllAllowPb (h : Pb.Handlers) (req : CheckRequest) : List Pb.Filter → CheckResponse → CheckResponse → Prop
  | nil (r) : AllAllowPb h req [] r r
  | cons (f fs r r1 r2) : StepAllows h req f r r1 → AllAllowPb h req fs r1 r2 → AllAllowPb h req (f :: fs) r r2

theorem runFiltersPb_append {h : Pb.Handlers} {req : CheckRequest} {pre : List Pb.Filter} {r r' : CheckResponse}
    (rest : List Pb.Filter) (hpre : AllAllowPb h req pre r r') :
    runFiltersPb h req (pre ++ rest) r = runFiltersPb h req rest r' := by
  induction hpre with
  | nil r => rfl
  | cons f fs r0 r1 r2 h1 _ ih => rw [List.cons_append, runFiltersPb, (h1 : filterStepPb h req f r0 = _)]; exact ih

/-- never a nil handler without an error, and a `Process` that either reports an error or leaves a non-nil response whose
    status is set - FOR EVERY response it is given, a nil one included. The handlers of the code base write through the pointer
    they are given (mock: `resp.Status = &status.Status{…}`; OIDC: `setDenyResponse` / `allowResponse`), so their faithful
    mirrors satisfy this only for non-nil inputs - which is all `Check` ever passes (`CheckResponse.new`, then earlier
    results) - and C08's `mockHandlers` does NOT satisfy it as stated; a handler that builds a fresh response does. -/
def HandlersWF (h : Pb.Handlers) : Prop :=
  (∀ m, (h.newMock m).isNil = false ∧ ∀ req r, let p := (h.newMock m).process req r
      p.2.isNil = true → p.1.isNil = false ∧ p.1.Status.isNil = false) ∧
  (∀ o, (h.newOIDC o).2.isNil = true → (h.newOIDC o).1.isNil = false ∧ ∀ req r, let p := (h.newOIDC o).1.process req r
      p.2.isNil = true → p.1.isNil = false ∧ p.1.Status.isNil = false)

/-- a loaded configuration: no nil messages in the repeated fields (protobuf decoding never produces them) and every
    filter is a mock or an OIDC filter (C17 `accepted_resolved`) -/
def FiltersWF (fs : List Pb.Filter) : Prop :=
  ∀ f ∈ fs, f.isNil = false ∧ ((∃ m, f.Type_ = .Mock m) ∨ (∃ o, f.Type_ = .Oidc o))

theorem filterStepPb_ok (h : Pb.Handlers) (hw : HandlersWF h) (req : CheckRequest) (f : Pb.Filter) (r : CheckResponse)
    (hf : f.isNil = false ∧ ((∃ m, f.Type_ = .Mock m) ∨ (∃ o, f.Type_ = .Oidc o))) :
    ∃ v, filterStepPb h req f r = .ok v := by
  unfold filterStepPb
  extract_lets run
  -- a handler that is not nil and whose `Process` errs or leaves a status cannot make `run` panic
  have hrun : ∀ hd : Handler, hd.isNil = false →
      (let p := hd.process req r; p.2.isNil = true → p.1.isNil = false ∧ p.1.Status.isNil = false) → ∃ v, run hd = .ok v := by
    intro hd h1 h2
    simp only [run, Handler.Process!, CheckResponse.Status!, Status.Code!, h1, go_simp]
    cases he : (hd.process req r).2.isNil
    · exact ⟨_, rfl⟩
    · simp only [h2 he, go_simp]
      split <;> exact ⟨_, rfl⟩
  simp only [hf.1, go_simp]
  rcases hf.2 with ⟨m, hm⟩ | ⟨o, ho⟩
  · rw [hm]
    exact hrun _ (hw.1 m.Mock).1 ((hw.1 m.Mock).2 req r)
  · rw [ho]
    cases hoe : (h.newOIDC o.Oidc).2.isNil <;> simp only [hoe, go_simp]
    · exact ⟨_, rfl⟩
    · exact hrun _ (hw.2 o.Oidc hoe).1 ((hw.2 o.Oidc hoe).2 req r)

theorem runFiltersPb_ok (h : Pb.Handlers) (hw : HandlersWF h) (req : CheckRequest) (fs : List Pb.Filter) (hfs : FiltersWF fs) :
    ∀ r, ∃ v, runFiltersPb h req fs r = .ok v := by
  induction fs with
  | nil => intro r; exact ⟨_, rfl⟩
  | cons f t ih =>
    intro r
    obtain ⟨v, hv⟩ := filterStepPb_ok h hw req f r (hfs f (by simp))
    simp only [runFiltersPb, hv]
    cases v with
    | inl res => exact ⟨_, rfl⟩
    | inr r' => exact ih (fun g hg => hfs g (by simp [hg])) r'

theorem runChainsPb_ok (env : Go.Env) (h : Pb.Handlers) (hw : HandlersWF h) (req : CheckRequest) (cs : List Pb.FilterChain)
    (hcs : ∀ c ∈ cs, c.isNil = false ∧ FiltersWF c.Filters) : ∃ v, runChainsPb env h req cs = .ok v := by
  induction cs with
  | nil => exact ⟨_, rfl⟩
  | cons c t ih =>
    obtain ⟨hc, hfs⟩ := hcs c List.mem_cons_self
    simp only [runChainsPb, chainStepPb, hc]
    cases chainMatches (matchOf c.Match) (httpOf req).GetHeaders
    · exact ih fun d hd => hcs d (List.mem_cons_of_mem _ hd)
    · cases c.Filters.length == 0
      · obtain ⟨v, hv⟩ := runFiltersPb_ok h hw req c.Filters hfs CheckResponse.new
        exact ⟨some v, by simp [hv]⟩
      · exact ⟨_, rfl⟩

theorem checkSpec_ok (env : Go.Env) (h : Pb.Handlers) (hw : HandlersWF h) (e : Pb.ExtAuthZFilter) (req : CheckRequest)
    (he : e.isNil = false) (hc : e.cfg.isNil = false) (hcs : ∀ c ∈ e.cfg.Chains, c.isNil = false ∧ FiltersWF c.Filters) :
    ∃ v, checkSpec env h e req = .ok v := by
  unfold checkSpec
  simp only [he, hc, Bool.false_eq_true, if_false]
  split
  · exact ⟨_, rfl⟩
  · obtain ⟨v, hv⟩ := runChainsPb_ok env h hw req e.cfg.Chains hcs
    rw [hv]
    cases v <;> exact ⟨_, rfl⟩

end AuthModel
