import AuthProofs.Ladder
namespace AuthModel
open Oidc

/-- feed a fixed list of environment answers to a check; `none` if the list is too short.
    (`Finality.lean` declares another `AuthModel.replay`, on store traces: the two modules cannot be imported together.) -/
def replay : Prog → List ARes → Option (Resp × List Act)
  | .ret r, _ => some (r, [])
  | .act a k, res :: rest => (replay (k res) rest).map fun x => (x.1, a :: x.2)
  | .act _ _, [] => none

/-- step 1 of a login: no cookie, not the logout path: one generator draw, the login state stored under the new id,
    and a 302 to the authorization endpoint carrying that id in the session cookie -/
theorem first_visit (cfg : Cfg) (o : Oracles) (req : Req) (prev : Headers) (sid nonce state verifier : Str)
    (hh : req.http = true) (hlo : matchesLogout cfg req = false) (hc : sessionIdFromCookie cfg req.cookie = []) :
    replay (process cfg o req prev) [.gen sid nonce state verifier, .done true] =
      some (redirectWithCookie (authLocation cfg o state nonce verifier) (setCookie (cookieName cfg) sid none),
            [.gen, .setAuth sid { state := state, nonce := nonce, requestedUrl := requestedUrl req, codeVerifier := verifier }]) := by
  simp [process, hh, hlo, hc, redirectToIdp, redirectAfterRemoval, replay]

/-- what a standards-compliant answer to the code exchange is, for the session's nonce -/
structure CompliantAnswer (cfg : Cfg) (o : Oracles) (b : IdpBody) (nonce : Str) : Prop where
  bearer : isBearer b.tokenType = true                         -- any capitalisation of "bearer"
  expires : b.expiresIn ≥ 0                                    -- absent (0) or a lifetime
  access : cfg.access.isSome = true → b.accessToken ≠ []       -- an access token when forwarding is configured
  parses : ∃ a, o.attrs b.idToken = some a ∧ a.nonce = .str nonce ∧ cfg.clientId ∈ a.aud   -- nonce echoed, aud ∋ client id
  signed : o.sigOK b.idToken = true

theorem compliant_valid (cfg : Cfg) (o : Oracles) (b : IdpBody) (nonce : Str) (h : CompliantAnswer cfg o b nonce) :
    validNewResponse cfg b = true := by
  unfold validNewResponse
  simp only [h.bearer, Bool.true_and, Bool.and_eq_true, decide_eq_true_eq]
  refine ⟨h.expires, ?_⟩
  cases hc : cfg.access with
  | none => simp
  | some x =>
    have := h.access (by simp [hc])
    simp [this]

/-- step 2: the callback with the issued state and any code, against a compliant provider: exactly one token request,
    login state cleared, tokens stored, 302 to the URL stored at step 1 -/
theorem callback_completes (cfg : Cfg) (o : Oracles) (req : Req) (prev : Headers) (sid code : Str) (a : AuthState) (b : IdpBody) (now : Int)
    (params : List (Str × Str))
    (hh : req.http = true) (hlo : matchesLogout cfg req = false) (hc : sessionIdFromCookie cfg req.cookie = sid)
    (hs : sid ≠ []) (hcb : matchesCallback cfg req = true)
    (hq : parseQuery (queryOf req.path) = (params, true)) (hne : params.isEmpty = false)
    (hst : valuesGet params (B "state") = a.state) (hsne : a.state ≠ [])
    (hcode : valuesGet params (B "code") = code) (hcne : code ≠ [])
    (hb : CompliantAnswer cfg o b a.nonce) :
    replay (process cfg o req prev) [.auth (.ok (some a)), .idp (.body b), .keys true, .done true, .time now, .done true] =
      some (found a.requestedUrl,
            [.getAuth sid, .idp (.code cfg.tokenUri code cfg.callbackUri a.codeVerifier cfg.clientId cfg.clientSecret),
             .keys, .clearAuth sid, .now,
             .setTok sid { idToken := b.idToken, accessToken := b.accessToken, refreshToken := b.refreshToken,
                           accessExp := accessExpiry now b.expiresIn }]) := by
  obtain ⟨at_, hat, hn, haud⟩ := hb.parses
  have hv := compliant_valid cfg o b a.nonce hb
  have hna : nonceAccepted at_ a.nonce true = true := by simp [nonceAccepted, hn]
  subst hc
  simp [process, hh, hlo, hs, hcb, retrieveTokens, hq, hne, hst, hsne, hcode, hcne, hv, validateIdToken, hat, hna,
    haud, hb.signed, replay]

/-- step 3 and every later request: a session holding unexpired tokens is answered OK with those tokens, with NO
    token request and no redirect (the only actions are the store read and the clock read) -/
theorem authenticated_request_ok (cfg : Cfg) (o : Oracles) (req : Req) (prev : Headers) (sid : Str) (t : Tokens)
    (at_ : TokAttrs) (now : Int)
    (hh : req.http = true) (hlo : matchesLogout cfg req = false) (hc : sessionIdFromCookie cfg req.cookie = sid)
    (hs : sid ≠ []) (hcb : matchesCallback cfg req = false)
    (hat : o.attrs t.idToken = some at_) (hfresh : tokensExpired cfg at_ t now = false) :
    replay (process cfg o req prev) [.tok (.ok (some t)), .time now] = some (allow cfg prev t, [.getTok sid, .now]) := by
  subst hc
  simp [process, hh, hlo, hs, hcb, hat, hfresh, replay]

/-- the tokens stored at step 2 are unexpired for as long as the provider said: until the ID token's `exp`, and - if a
    positive `expires_in` was announced (asked for whether or not forwarding is configured) - until that lifetime (minus 5 ns) is over.
    In particular a response WITHOUT expires_in does not make the session expire at once (the C03 defect). -/
theorem stored_tokens_valid_while_provider_says (cfg : Cfg) (at_ : TokAttrs) (b : IdpBody) (now0 now : Int)
    (hexp : now ≤ at_.exp)
    (hacc : b.expiresIn > 0 → now ≤ now0 + b.expiresIn * 1000000000 - 5) :
    tokensExpired cfg at_ { idToken := b.idToken, accessToken := b.accessToken, refreshToken := b.refreshToken,
                            accessExp := accessExpiry now0 b.expiresIn } now = false := by
  unfold tokensExpired accessExpiry nsPerSec
  have h1 : decide (at_.exp < now) = false := by simp; omega
  simp only [h1, Bool.false_or]
  by_cases hpos : b.expiresIn > 0
  · have := hacc hpos
    simp only [hpos, if_true]
    have h2 : decide (now0 + b.expiresIn * 1000000000 - 5 < now) = false := by simp; omega
    simp [h2]
  · simp [hpos]

end AuthModel
