/-
  Every operation of the memory store is `live`, then `upd` of the one session (`set_eq` .. `clearAuth_eq`);
  `absM_upd` reads a store of that form through the abstraction.
-/
import AuthModel.Store.Memory
import AuthProofs.Spec
namespace AuthModel

namespace MemStore

theorem upd_same {α} (m : Str → α) (k : Str) (v : α) : upd m k v k = v := by simp [upd]
theorem upd_other {α} (m : Str → α) (k k' : Str) (v : α) (h : k' ≠ k) : upd m k v k' = m k' := by simp [upd, h]

def toSess (s : MSess) : Sess := { auth := s.auth, tokens := s.tokens, created := s.added }

/-- what the memory store stands for at time `now`: its live sessions, as entries of the plain map -/
def absM (m : MemStore) (now : Int) : SpecMap := fun id =>
  match m.sessions id with
  | none => none
  | some s => if m.expired now s then none else some { auth := s.auth, tokens := s.tokens, created := s.added }

theorem not_expired_iff {m : MemStore} {now : Int} {s : MSess} :
    m.expired now s = false ↔ (m.abs > 0 → now ≤ s.added + m.abs) ∧ (m.idle > 0 → now ≤ s.accessed + m.idle) := by
  simp only [expired, Bool.or_eq_false_iff, Bool.and_eq_false_iff, decide_eq_false_iff_not, Int.not_lt,
    Decidable.imp_iff_not_or]

theorem expired_noTimeout (m : MemStore) (h0 : m.abs = 0) (h1 : m.idle = 0) (now : Int) (s : MSess) :
    m.expired now s = false := by
  simp [expired, h0, h1]

/-- at the moment of an access only the absolute limit can have run out -/
theorem not_expired_of_accessed {m : MemStore} {now : Int} {s : MSess} (hc : s.accessed = now)
    (ha : m.abs > 0 → now ≤ s.added + m.abs) : m.expired now s = false :=
  not_expired_iff.2 ⟨ha, fun _ => by omega⟩

/-- `live` writes back what it returns -/
theorem live_fst (m : MemStore) (now : Int) (id : Str) :
    (m.live now id).1 = { m with sessions := upd m.sessions id (m.live now id).2 } := by
  have eta : ∀ x, m.sessions id = x → m = { m with sessions := upd m.sessions id x } :=
    fun x hx => by rw [← hx, upd_self]
  unfold live
  split
  · exact eta _ ‹_›
  · split
    · rfl
    · exact eta _ ‹_›

theorem live_eq_some {m : MemStore} {now : Int} {id : Str} {s : MSess} :
    (m.live now id).2 = some s ↔
      m.sessions id = some s ∧ (m.abs > 0 → now ≤ s.added + m.abs) ∧ (m.idle > 0 → now ≤ s.accessed + m.idle) := by
  rw [← not_expired_iff]
  unfold live
  cases m.sessions id with
  | none => simp
  | some s0 =>
    -- expired or not, what `simp` leaves is that `s = s0` carries `he` over to `s`
    cases he : m.expired now s0 <;> simp [he]
    · rintro rfl; exact he
    · rintro rfl; exact he

theorem live_sessions_other (m : MemStore) (now : Int) (id k : Str) (h : k ≠ id) :
    (m.live now id).1.sessions k = m.sessions k := by
  rw [live_fst]; exact upd_other _ _ _ _ h

theorem absM_id (m : MemStore) (now : Int) (id : Str) : absM m now id = ((m.live now id).2).map toSess := by
  unfold absM live
  cases m.sessions id with
  | none => rfl
  | some s => dsimp only; cases m.expired now s <;> rfl

theorem absM_upd (m : MemStore) (now : Int) (id : Str) (x : Option MSess)
    (hx : ∀ s, x = some s → m.expired now s = false) :
    absM { m with sessions := upd m.sessions id x } now = upd (absM m now) id (x.map toSess) := by
  funext k
  by_cases hk : k = id <;> simp only [absM, upd, hk]
  · cases x with
    | none => rfl
    | some s => exact if_neg (Bool.eq_false_iff.1 (hx s rfl))
  · rfl

theorem live_absM (m : MemStore) (now : Int) (id : Str) : absM (m.live now id).1 now = absM m now := by
  rw [live_fst, absM_upd, ← absM_id, upd_self]
  exact fun s h => not_expired_iff.2 (live_eq_some.1 h).2

theorem set_eq (m : MemStore) (now : Int) (id : Str) (f : MSess → MSess) :
    m.set now id f = { m with sessions := upd m.sessions id (some (f (match (m.live now id).2 with
      | some s => { s with accessed := now }
      | none => { tokens := none, auth := none, added := now, accessed := now }))) } := by
  unfold set
  rw [live_fst]
  cases (m.live now id).2 <;> simp only [upd_upd]

/-- the store `getTok`, `getAuth` and `clearAuth` leave behind -/
theorem touch_eq (m : MemStore) (now : Int) (id : Str) (g : MSess → MSess) :
    (match (m.live now id).2 with
      | none => (m.live now id).1
      | some s => { (m.live now id).1 with sessions := upd (m.live now id).1.sessions id (some (g s)) })
    = { m with sessions := upd m.sessions id ((m.live now id).2.map g) } := by
  rw [live_fst]
  cases (m.live now id).2 <;> simp only [upd_upd, Option.map]

theorem getTok_eq (m : MemStore) (now : Int) (id : Str) :
    m.getTok now id = ({ m with sessions := upd m.sessions id ((m.live now id).2.map ({ · with accessed := now })) },
      (m.live now id).2.bind (·.tokens)) := by
  rw [← touch_eq]; unfold getTok; cases (m.live now id).2 <;> rfl

theorem getAuth_eq (m : MemStore) (now : Int) (id : Str) :
    m.getAuth now id = ({ m with sessions := upd m.sessions id ((m.live now id).2.map ({ · with accessed := now })) },
      (m.live now id).2.bind (·.auth)) := by
  rw [← touch_eq]; unfold getAuth; cases (m.live now id).2 <;> rfl

theorem clearAuth_eq (m : MemStore) (now : Int) (id : Str) :
    m.clearAuth now id =
      { m with sessions := upd m.sessions id ((m.live now id).2.map ({ · with accessed := now, auth := none })) } :=
  touch_eq m now id _

theorem set_absM (m : MemStore) (now : Int) (id : Str) (f : MSess → MSess)
    (hf : ∀ s, (f s).added = s.added ∧ (f s).accessed = s.accessed) :
    absM (m.set now id f) now = upd (absM m now) id (some (toSess (f (match (m.live now id).2 with
      | some s => { s with accessed := now }
      | none => { tokens := none, auth := none, added := now, accessed := now })))) := by
  rw [set_eq, absM_upd]
  · rfl
  · -- the side condition of `absM_upd`: what is written is not expired - its last access is `now`, and it is new or was live
    rintro _ ⟨rfl⟩
    apply not_expired_of_accessed
    · rw [(hf _).2]; cases (m.live now id).2 <;> rfl
    · rw [(hf _).1]
      cases hl : (m.live now id).2 with
      | none => intro _; simp only; omega
      | some s => exact (live_eq_some.1 hl).2.1

theorem setTok_refines (m : MemStore) (now : Int) (id : Str) (t : Tokens) :
    absM (m.setTok now id t) now = Spec.setTok (absM m now) id t now := by
  rw [setTok, set_absM, Spec.setTok, absM_id]
  · cases (m.live now id).2 <;> rfl
  · exact fun _ => ⟨rfl, rfl⟩

theorem setAuth_refines (m : MemStore) (now : Int) (id : Str) (a : AuthState) :
    absM (m.setAuth now id a) now = Spec.setAuth (absM m now) id a now := by
  rw [setAuth, set_absM, Spec.setAuth, absM_id]
  · cases (m.live now id).2 <;> rfl
  · exact fun _ => ⟨rfl, rfl⟩

/-- rewriting the live session by a `g` that records the access rewrites the entry of the plain map by `g'` -/
theorem touch_absM (m : MemStore) (now : Int) (id : Str) (g : MSess → MSess) (g' : Sess → Sess)
    (hg : ∀ s, (g s).added = s.added ∧ (g s).accessed = now) (hg' : ∀ s, toSess (g s) = g' (toSess s)) :
    absM { m with sessions := upd m.sessions id ((m.live now id).2.map g) } now =
      upd (absM m now) id ((absM m now id).map g') := by
  rw [absM_upd, absM_id]
  · cases (m.live now id).2 <;> simp only [Option.map, hg']
  · intro s' hs'
    obtain ⟨s, hl, rfl⟩ := Option.map_eq_some_iff.1 hs'
    exact not_expired_of_accessed (hg s).2 (by rw [(hg s).1]; exact (live_eq_some.1 hl).2.1)

theorem read_absM (m : MemStore) (now : Int) (id : Str) :
    absM { m with sessions := upd m.sessions id ((m.live now id).2.map ({ · with accessed := now })) } now = absM m now := by
  rw [touch_absM m now id ({ · with accessed := now }) (fun s => s) (fun _ => ⟨rfl, rfl⟩) fun _ => rfl,
    Option.map_id', upd_self]

theorem getTok_refines (m : MemStore) (now : Int) (id : Str) :
    (m.getTok now id).2 = Spec.getTok (absM m now) id ∧ absM (m.getTok now id).1 now = absM m now := by
  rw [getTok_eq, Spec.getTok, absM_id]
  exact ⟨by cases (m.live now id).2 <;> rfl, read_absM m now id⟩

theorem getAuth_refines (m : MemStore) (now : Int) (id : Str) :
    (m.getAuth now id).2 = Spec.getAuth (absM m now) id ∧ absM (m.getAuth now id).1 now = absM m now := by
  rw [getAuth_eq, Spec.getAuth, absM_id]
  exact ⟨by cases (m.live now id).2 <;> rfl, read_absM m now id⟩

theorem clearAuth_refines (m : MemStore) (now : Int) (id : Str) :
    absM (m.clearAuth now id) now = Spec.clearAuth (absM m now) id := by
  rw [clearAuth_eq, Spec.clearAuth_eq]
  exact touch_absM m now id _ _ (fun _ => ⟨rfl, rfl⟩) fun _ => rfl

theorem remove_refines (m : MemStore) (now : Int) (id : Str) :
    absM (m.remove id) now = Spec.remove (absM m now) id :=
  absM_upd m now id none fun _ h => nomatch h

theorem sweepCond_eq_expired (m : MemStore) (now : Int) (s : MSess) :
    ((decide (m.abs > 0) && decide (s.added < now - m.abs)) || (decide (m.idle > 0) && decide (s.accessed < now - m.idle)))
      = m.expired now s := by
  unfold expired
  congr 2 <;> exact decide_eq_decide.2 Int.lt_sub_right_iff_add_lt

/-- sweeping changes nothing that is still live: `RemoveAllExpired` is invisible through the abstraction -/
theorem removeAllExpired_invisible (m : MemStore) (now : Int) : absM (m.removeAllExpired now) now = absM m now := by
  funext k
  simp only [absM, removeAllExpired, sweepCond_eq_expired]
  cases m.sessions k with
  | none => rfl
  | some s =>
    dsimp only
    cases he : m.expired now s
    · exact if_neg (Bool.eq_false_iff.1 he)
    · rfl

/-- NEVER LATE (memory): whatever a read takes out of the live session comes from a session inside both limits -/
theorem read_never_late {α} (m : MemStore) (now : Int) (id : Str) (p : MSess → Option α) (a : α)
    (h : (m.live now id).2.bind p = some a) :
    ∃ s, m.sessions id = some s ∧ p s = some a ∧
      (m.abs > 0 → now ≤ s.added + m.abs) ∧ (m.idle > 0 → now ≤ s.accessed + m.idle) := by
  obtain ⟨s, hl, hp⟩ := Option.bind_eq_some_iff.1 h
  obtain ⟨hs, hin⟩ := live_eq_some.1 hl
  exact ⟨s, hs, hp, hin⟩

/-- NOT DROPPED INSIDE (memory): a session inside both limits is served, and the access is recorded -/
theorem getAuth_inside (m : MemStore) (now : Int) (id : Str) (s : MSess) (hs : m.sessions id = some s)
    (ha : m.abs > 0 → now ≤ s.added + m.abs) (hi : m.idle > 0 → now ≤ s.accessed + m.idle) :
    (m.getAuth now id).2 = s.auth ∧ (m.getAuth now id).1.sessions id = some { s with accessed := now } := by
  rw [getAuth_eq, live_eq_some.2 ⟨hs, ha, hi⟩]
  exact ⟨rfl, upd_same ..⟩

/-- a write on a live session keeps its creation time and records the access; on an absent or expired one it
    starts a new session created now -/
theorem setAuth_session (m : MemStore) (now : Int) (id : Str) (a : AuthState) :
    (m.setAuth now id a).sessions id = some (match (m.live now id).2 with
      | some s => { s with accessed := now, auth := some a }
      | none => { tokens := none, auth := some a, added := now, accessed := now }) := by
  rw [setAuth, set_eq]
  cases (m.live now id).2 <;> exact upd_same ..

end MemStore
end AuthModel
