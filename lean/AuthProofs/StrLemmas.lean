import AuthModel.Str
namespace AuthModel

theorem forall_byte {P : UInt8 → Prop} (h : ∀ n : Fin 256, P (UInt8.ofNat n.val)) : ∀ b, P b := by
  intro b
  simpa using h ⟨b.toNat, b.toNat_lt⟩

/-- The bytes of a literal without `String.toList`, which the kernel evaluates by decoding UTF-8 position by position:
    a literal is `String.ofList` of its characters by definition, so `rw [B_ofList]` applies to `B "..."`. -/
theorem B_ofList (l : List Char) : B (String.ofList l) = l.map fun c => c.toNat.toUInt8 := by
  rw [B, String.toList_ofList]

namespace Str

theorem hasPrefix_append (p rest : Str) : hasPrefix (p ++ rest) p = true := by
  induction p with
  | nil => cases rest <;> rfl
  | cons a p ih => simpa [hasPrefix] using ih

theorem toLowerAscii_idem (s : Str) : toLowerAscii (toLowerAscii s) = toLowerAscii s := by
  simp only [toLowerAscii, List.map_map]
  exact congrArg (List.map · s) (funext (forall_byte (by decide +kernel)))

theorem cut_eq (c : UInt8) (s : Str) :
    cut c s = (s.takeWhile (· ≠ c), (s.dropWhile (· ≠ c)).tail?) := by
  induction s with
  | nil => rfl
  | cons a s ih =>
    rw [cut]
    split <;> simp [*]

theorem cut_append {c : UInt8} {p : Str} (r : Str) (h : c ∉ p) :
    cut c (p ++ r) = (p ++ (cut c r).1, (cut c r).2) := by
  have hp : ∀ a ∈ p, decide (a ≠ c) = true := fun a ha => decide_eq_true fun e => h (e ▸ ha)
  rw [cut_eq, cut_eq, List.takeWhile_append_of_pos hp, List.dropWhile_append_of_pos hp]

theorem cut_append_of_not_mem {c : UInt8} {p : Str} (q : Str) (h : c ∉ p) :
    cut c (p ++ c :: q) = (p, some q) := by
  simp [cut_append _ h, cut]

theorem cut_of_not_mem {c : UInt8} {p : Str} (h : c ∉ p) : cut c p = (p, none) := by
  simpa [cut] using cut_append [] h

theorem cut_eq_index (c : UInt8) (s : Str) :
    cut c s = match indexOf c s with
      | none => (s, none)
      | some i => (s.take i, some (s.drop (i + 1))) := by
  induction s with
  | nil => rfl
  | cons a s ih =>
    rw [cut, indexOf]
    split
    · rfl
    · rw [ih]; cases indexOf c s <;> rfl

/-- `indexOf` is core's `List.idxOf?` -/
theorem indexOf_eq_idxOf? (c : UInt8) (s : Str) : indexOf c s = s.idxOf? c := by
  induction s with
  | nil => rfl
  | cons a s ih => simp [indexOf, List.idxOf?_cons, ih]

theorem indexOf_lt {c : UInt8} {s : Str} {i : Nat} (h : indexOf c s = some i) : i < s.length :=
  (List.idxOf?_eq_some_iff.mp (indexOf_eq_idxOf? c s ▸ h)).1

theorem splitOn_eq_cut (c : UInt8) (s : Str) :
    splitOn c s = match cut c s with
      | (p, none) => [p]
      | (p, some q) => p :: splitOn c q := by
  induction s with
  | nil => rfl
  | cons a s ih =>
    rw [splitOn, cut]
    split
    · rfl
    · rw [ih]; rcases cut c s with ⟨p, _ | q⟩ <;> rfl

theorem splitOn_of_not_mem {c : UInt8} {s : Str} (h : c ∉ s) : splitOn c s = [s] := by
  rw [splitOn_eq_cut, cut_of_not_mem h]

theorem splitOn_append_of_not_mem {c : UInt8} {p : Str} (q : Str) (h : c ∉ p) :
    splitOn c (p ++ c :: q) = p :: splitOn c q := by
  rw [splitOn_eq_cut, cut_append_of_not_mem q h]

end Str

end AuthModel
