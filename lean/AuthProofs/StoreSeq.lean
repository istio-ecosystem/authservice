/-
  A step-wise simulation gives equal histories (`runOps_sim`); the memory store and the Redis store with the timeouts off are
  its two instances against the plain session map.
-/
import AuthModel.Store.Ops
import AuthProofs.Memory
import AuthProofs.Redis
namespace AuthModel
open MemStore

/-- a simulation: related states answer alike and step to related states, so whole histories answer alike -/
theorem runOps_sim {σ τ : Type} (step : σ → Int → SOp → σ × SOut) (step' : τ → Int → SOp → τ × SOut)
    (R : σ → τ → Prop) (ok : SOp → Prop)
    (hstep : ∀ s t now op, R s t → ok op →
      (step s now op).2 = (step' t now op).2 ∧ R (step s now op).1 (step' t now op).1)
    (s : σ) (t : τ) (ops : List (Int × SOp)) (hR : R s t) (hok : ∀ x ∈ ops, ok x.2) :
    runOps step s ops = runOps step' t ops := by
  induction ops generalizing s t with
  | nil => rfl
  | cons x rest ih =>
    obtain ⟨now, op⟩ := x
    obtain ⟨h1, h2⟩ := hstep s t now op hR (hok _ (.head _))
    simp only [runOps, h1]
    exact congrArg _ (ih _ _ h2 fun y hy => hok y (.tail _ hy))

theorem absM_noTimeout (m : MemStore) (h0 : m.abs = 0) (h1 : m.idle = 0) (now now' : Int) : absM m now = absM m now' := by
  funext k
  unfold absM
  cases m.sessions k with
  | none => rfl
  | some s => simp [expired_noTimeout m h0 h1]

theorem memStep_timeouts (m : MemStore) (now : Int) (op : SOp) :
    (memStep m now op).1.abs = m.abs ∧ (memStep m now op).1.idle = m.idle := by
  -- a step changes nothing but the sessions
  have h : ∃ f, (memStep m now op).1 = { m with sessions := f } := by
    cases op with
    | setTok id t => exact ⟨_, set_eq m now id ({ · with tokens := some t })⟩
    | setAuth id a => exact ⟨_, set_eq m now id ({ · with auth := some a })⟩
    | getTok id => exact ⟨_, congrArg Prod.fst (getTok_eq m now id)⟩
    | getAuth id => exact ⟨_, congrArg Prod.fst (getAuth_eq m now id)⟩
    | clearAuth id => exact ⟨_, clearAuth_eq m now id⟩
    | remove id => exact ⟨_, rfl⟩
  obtain ⟨f, h⟩ := h
  rw [h]; exact ⟨rfl, rfl⟩

/-- one step of the memory store is one step of the plain map of its live sessions, at the instant of the step (any timeouts) -/
theorem memStep_refines (m : MemStore) (now : Int) (op : SOp) :
    (memStep m now op).2 = (specStep false (absM m now) now op).2 ∧
    absM (memStep m now op).1 now = (specStep false (absM m now) now op).1 := by
  cases op with
  | setTok id t => exact ⟨rfl, setTok_refines m now id t⟩
  | getTok id => exact ⟨congrArg SOut.tok (getTok_refines m now id).1, (getTok_refines m now id).2⟩
  | setAuth id a => exact ⟨rfl, setAuth_refines m now id a⟩
  | getAuth id => exact ⟨congrArg SOut.auth (getAuth_refines m now id).1, (getAuth_refines m now id).2⟩
  | clearAuth id => exact ⟨rfl, clearAuth_refines m now id⟩
  | remove id => exact ⟨rfl, remove_refines m now id⟩

/-- ALL HISTORIES (memory, timeouts off): the outputs are those of the plain map. -/
theorem memory_history_refines (m : MemStore) (h0 : m.abs = 0) (h1 : m.idle = 0) (spec : SpecMap)
    (habs : ∀ now, absM m now = spec) (ops : List (Int × SOp)) :
    runOps memStep m ops = runOps (specStep false) spec ops := by
  refine runOps_sim memStep (specStep false) (fun m spec => m.abs = 0 ∧ m.idle = 0 ∧ ∀ now, absM m now = spec)
    (fun _ => True) ?_ m spec ops ⟨h0, h1, habs⟩ fun _ _ => trivial
  rintro m spec now op ⟨h0, h1, habs⟩ -
  obtain ⟨ht0, ht1⟩ := memStep_timeouts m now op
  obtain ⟨hr1, hr2⟩ := memStep_refines m now op
  rw [habs now] at hr1 hr2
  refine ⟨hr1, ht0.trans h0, ht1.trans h1, fun now' => ?_⟩
  rw [absM_noTimeout _ (ht0.trans h0) (ht1.trans h1) now' now]; exact hr2

/-- input guard of a history: only well-formed token sets and login states are written -/
def WFOp (parses : Str → Bool) : SOp → Prop
  | .setTok _ t => Redis.TokOK parses t
  | .setAuth _ a => Redis.AuthOK a
  | _ => True

def absR (parses : Str → Bool) (srv : Str → RHash) : SpecMap := fun id => Redis.decode parses (srv id)

/-- one step of the Redis store is one step of the plain map (timeouts off, guarded inputs) -/
theorem redisStep_refines (parses : Str → Bool) (srv : Str → RHash) (now : Int) (op : SOp)
    (hinv : ∀ id, Redis.RInv (srv id)) (hwf : WFOp parses op) :
    (redisStep parses 0 0 srv now op).2 = (specStep true (absR parses srv) now op).2 ∧
    (∀ id, Redis.RInv ((redisStep parses 0 0 srv now op).1 id)) ∧
    absR parses (redisStep parses 0 0 srv now op).1 = (specStep true (absR parses srv) now op).1 := by
  -- writing a hash that satisfies the invariant and decodes to `v` is writing `v` into the plain map
  have write : ∀ id h' v, Redis.RInv h' → Redis.decode parses h' = v →
      (∀ k, Redis.RInv (upd srv id h' k)) ∧ absR parses (upd srv id h') = upd (absR parses srv) id v := by
    rintro id h' _ hi rfl
    constructor
    · intro k; unfold upd; split
      · exact hi
      · exact hinv k
    · funext k; unfold absR upd; split <;> rfl
  cases op with
  | setTok id t =>
    obtain ⟨hok, hi, hd⟩ := Redis.setTok_refines parses now t (srv id) (hinv id) hwf
    rw [redisStep, specStep, hok]
    exact ⟨rfl, write id _ _ hi hd⟩
  | setAuth id a =>
    obtain ⟨hok, hi, hd⟩ := Redis.setAuth_refines parses now a (srv id) (hinv id) hwf
    rw [redisStep, specStep, hok]
    exact ⟨rfl, write id _ _ hi hd⟩
  | clearAuth id =>
    obtain ⟨hok, hi, hd⟩ := Redis.clearAuth_refines parses now (srv id) (hinv id)
    rw [redisStep, specStep, Spec.clearAuth_eq]
    refine ⟨?_, write id _ _ hi hd⟩
    rw [show (Redis.clearAuth 0 0 now (srv id)).2 = (absR parses srv id).isSome from hok]
    cases absR parses srv id <;> rfl
  | remove id => exact ⟨rfl, write id _ _ Redis.RInv_empty rfl⟩
  | getTok id =>
    simp only [redisStep, specStep, Redis.getTok_refines parses now (srv id) (hinv id), upd_self]
    exact ⟨rfl, hinv, trivial⟩
  | getAuth id =>
    simp only [redisStep, specStep, Redis.getAuth_refines parses now (srv id) (hinv id), upd_self]
    exact ⟨rfl, hinv, trivial⟩

/-- ALL HISTORIES (Redis, timeouts off, guarded inputs): the outputs are those of the plain map. -/
theorem redis_history_refines (parses : Str → Bool) (srv : Str → RHash) (spec : SpecMap)
    (hinv : ∀ id, Redis.RInv (srv id)) (habs : absR parses srv = spec)
    (ops : List (Int × SOp)) (hwf : ∀ x ∈ ops, WFOp parses x.2) :
    runOps (redisStep parses 0 0) srv ops = runOps (specStep true) spec ops := by
  refine runOps_sim (redisStep parses 0 0) (specStep true)
    (fun srv spec => (∀ id, Redis.RInv (srv id)) ∧ absR parses srv = spec) (WFOp parses) ?_ srv spec ops ⟨hinv, habs⟩ hwf
  rintro srv _ now op ⟨hinv, rfl⟩ hwf
  exact redisStep_refines parses srv now op hinv hwf

end AuthModel
