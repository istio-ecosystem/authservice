/-
  Equivalence of the mechanically translated helper functions of internal/authz/oidc.go and internal/http/http.go
  (AuthModel/Generated/CodeOidc.lean, CodeHttp.lean - regenerated from /repo on every run) with the definitions of the
  hand-written handler model (AuthModel/Oidc/Handler.lean) that the property theorems are about: cookie name, Set-Cookie
  assembly (`getCookieDirectives` included), cookie parsing and session-id lookup, logout/callback path matching, header
  encoding of the forwarded tokens, the two token-response validators, the expiry test (`areRequiredTokensExpired`).  Each
  theorem: the translated function does not panic (under the stated non-nil hypotheses, which the call sites guarantee;
  `code_tokensExpired` also needs a token that parses and carries `exp`, and a clock that is not zero, because the model's
  `exp` and `now` are plain `Int`s) and returns the model's value.
-/
import AuthModel.Generated.CodeOidc
import AuthProofs.CodeEquiv
import AuthModel.Oidc.Handler
namespace AuthModel
open Str Go Oidc

theorem code_getCookieName (env : Go.Env) (c : Pb.OIDCConfig) (cfg : Cfg) (h : cfg.cookiePrefix = c.GetCookieNamePrefix) :
    Code.getCookieName env c = .ok (cookieName cfg) := by
  unfold Code.getCookieName cookieName
  simp only [go_simp, h, ite_ok, bne_iff_ne]
  rfl

theorem code_encodeHeaderValue (env : Go.Env) (p v : Str) :
    Code.encodeHeaderValue env p v = .ok (encodeHeaderValue p v) := by
  unfold Code.encodeHeaderValue encodeHeaderValue
  simp only [go_simp, ite_ok, bne_iff_ne]
  rfl

def bodyOf (r : Pb.IdpTokensResponse) : IdpBody :=
  { idToken := r.IDToken, accessToken := r.AccessToken, refreshToken := r.RefreshToken, expiresIn := r.ExpiresIn, tokenType := r.TokenType }

theorem equalFold_bearer (s : Str) : Go.equalFold s (B "Bearer") = isBearer s := by
  have : (B "Bearer").toLowerAscii = B "bearer" := by decide +kernel
  rw [Go.equalFold, this]; rfl

theorem code_validRefresh (env : Go.Env) (r : Pb.IdpTokensResponse) (hn : r.isNil = false) :
    Code.isValidIDPRefreshTokenResponse env r = .ok (validRefreshResponse (bodyOf r)) := by
  unfold Code.isValidIDPRefreshTokenResponse validRefreshResponse bodyOf
  -- `expires_in < 0` is the negation of the model's `expires_in ≥ 0`; what is left is the same decision on booleans
  simp only [go_simp, hn, equalFold_bearer, ← Int.not_le, decide_not]
  cases isBearer r.TokenType <;> cases decide (0 ≤ r.ExpiresIn) <;> rfl

theorem code_validNew (env : Go.Env) (c : Pb.OIDCConfig) (r : Pb.IdpTokensResponse) (cfg : Cfg) (hn : r.isNil = false)
    (hc : cfg.access.isSome = !c.GetAccessToken.isNil) :
    Code.isValidIDPNewTokensResponse env c r = .ok (validNewResponse cfg (bodyOf r)) := by
  unfold Code.isValidIDPNewTokensResponse validNewResponse bodyOf
  simp only [go_simp, hn, hc, equalFold_bearer, ← Int.not_le, decide_not, ← Bool.beq_eq_decide_eq]
  cases isBearer r.TokenType <;> cases decide (0 ≤ r.ExpiresIn) <;>
    cases !c.GetAccessToken.isNil && r.AccessToken == [] <;> rfl

theorem code_encodeTokens (env : Go.Env) (o : Pb.OidcHandler) (t : Pb.TokenResponse) (cfg : Cfg) (tok : Tokens)
    (ho : o.isNil = false) (hc : o.config.isNil = false) (ht : t.isNil = false)
    (hid : cfg.idHeader = o.config.IdToken.GetHeader) (hpre : cfg.idPreamble = o.config.IdToken.GetPreamble)
    (hacc : cfg.access = if o.config.AccessToken.isNil then none else some (o.config.AccessToken.Header, o.config.AccessToken.Preamble))
    (h1 : tok.idToken = t.IDToken) (h2 : tok.accessToken = t.AccessToken) :
    Code.encodeTokensToHeaders env o t = .ok (encodeTokens cfg tok) := by
  unfold Code.encodeTokensToHeaders encodeTokens
  simp only [go_simp, ho, hc, ht, code_encodeHeaderValue, hid, hpre, hacc, h1, h2, Pb.OIDCConfig.GetIdToken,
    Pb.OIDCConfig.GetAccessToken, Go.Map.set]
  cases h3 : o.config.AccessToken.isNil
  · have hah : o.config.AccessToken.GetHeader = o.config.AccessToken.Header := by simp [Pb.TokenConfig.GetHeader, h3]
    have hap : o.config.AccessToken.GetPreamble = o.config.AccessToken.Preamble := by simp [Pb.TokenConfig.GetPreamble, h3]
    simp only [go_simp, hah, hap]
    generalize o.config.IdToken.GetHeader = ih
    generalize o.config.AccessToken.Header = ah
    by_cases h4 : t.AccessToken = []
    · simp [h4]
    · by_cases h5 : ih = ah
      · simp [h4, h5]
      · simp [h4, h5, Ne.symm h5]
  · simp

theorem code_matchesLogout (env : Go.Env) (c : Pb.OIDCConfig) (h : Pb.AttributeContext_HttpRequest) (cfg : Cfg) (req : Req)
    (hl : cfg.logout = if c.GetLogout.isNil then none else some (c.GetLogout.Path, c.GetLogout.RedirectUri))
    (hp : req.path = h.GetPath) :
    Code.matchesLogoutPath env c h = .ok (matchesLogout cfg req) := by
  unfold Code.matchesLogoutPath matchesLogout pathOf
  cases hn : c.GetLogout.isNil <;> simp only [go_simp, hn, hl, hp, code_pqf, Pb.LogoutConfig.GetPath]

theorem code_matchesCallback (env : Go.Env) (c : Pb.OIDCConfig) (h : Pb.AttributeContext_HttpRequest) (cfg : Cfg) (req : Req)
    (u : Go.URL) (e : Bool) (hu : env.urlParseOracle c.GetCallbackUri = (u, e)) (hun : u.isNil = false)
    (h1 : cfg.cbScheme = u.Scheme) (h2 : cfg.cbHost = u.hostname) (h3 : cfg.cbPort = u.port) (h4 : cfg.cbPath = u.escapedPath)
    (hp : req.path = h.GetPath) (hh : req.host = h.GetHost) :
    Code.matchesCallbackPath env c h = .ok (matchesCallback cfg req) := by
  unfold Code.matchesCallbackPath matchesCallback pathOf
  have hC : B ":" = [58] := by decide +kernel
  simp only [go_simp, code_pqf, Go.Env.urlParse, hu, hun, h1, h2, h3, h4, hp, hh, hC, bne_iff_ne, ne_eq, List.append_assoc]
  -- with a port or without: the code decides before it compares, the model inside the comparison
  by_cases hp0 : u.port = [] <;> simp only [hp0, not_false_eq_true, not_true_eq_false, if_true, if_false]

theorem code_encodeCookie (env : Go.Env) (n v : Str) (ds : List Str) :
    Code.EncodeCookieHeader env n v ds = .ok (encodeCookie n v ds) := by
  unfold Code.EncodeCookieHeader encodeCookie
  have hsep : B "; " = [59, 32] := by decide +kernel
  have heq : B "=" = [61] := by decide +kernel
  simp only [go_simp, hsep, heq]
  rw [forIn_fold (fun b d => b ++ ([59, 32] ++ d)) fun _ _ => rfl]
  -- a fold that appends to its accumulator is the accumulator followed by the fold from `[]`
  simp [go_simp, List.foldl_append_eq_append]

theorem code_cookieDirectives (env : Go.Env) (t : Int) :
    Code.getCookieDirectives env t =
      .ok (cookieDirectives ++ if t < 0 then [] else [B "Max-Age=" ++ Str.ofNat (Go.Duration.secondsInt t).toNat]) := by
  unfold Code.getCookieDirectives
  have hm : Code.HeaderSetCookieMaxAge ++ B "=" = B "Max-Age=" := by decide +kernel
  by_cases h : t < 0
  · have : ¬ t ≥ 0 := by omega
    simp [h, this]; rfl
  · -- whole seconds of a non-negative duration are non-negative: `itoa` prints no sign
    have hs : ¬ Go.Duration.secondsInt t < 0 := Int.not_lt.mpr (Int.tdiv_nonneg (by omega) (by omega))
    have : t ≥ 0 := by omega
    simp [h, this, Go.itoa, hs, hm]; rfl

/-- `generateSetCookieHeader` is the model's `setCookie`: a negative timeout gives no Max-Age, a non-negative one
    `Max-Age=<whole seconds>` -/
theorem code_setCookie (env : Go.Env) (n v : Str) (t : Int) :
    Code.generateSetCookieHeader env n v t =
      .ok (setCookie n v (if t < 0 then none else some (Go.Duration.secondsInt t).toNat)) := by
  unfold Code.generateSetCookieHeader setCookie
  simp only [code_cookieDirectives, code_encodeCookie]
  split <;> rfl

/-- the Go map built by inserting the pairs of an association list in order -/
def mapOfList (l : List (Str × Str)) (m : Go.Map := []) : Go.Map := l.foldl (fun m kv => Go.Map.set m kv.1 kv.2) m

theorem map_get_nil (k : Str) : Go.Map.get [] k = [] := rfl

/-- `lookupLast` from the front: a later binding of `k` wins over the first pair -/
theorem lookupLast_cons (k1 v1 : Str) (t : List (Str × Str)) (k : Str) :
    lookupLast ((k1, v1) :: t) k = match lookupLast t k with
      | some v => some v
      | none => if k1 == k then some v1 else none := by
  unfold lookupLast
  simp only [List.reverse_cons, List.find?_append]
  cases List.find? (fun x => x.fst == k) t.reverse with
  | some kv => rfl
  | none => cases hk : k1 == k <;> simp [List.find?, hk]

theorem map_get_mapOfList (l : List (Str × Str)) (m : Go.Map) (k : Str) :
    Go.Map.get (mapOfList l m) k = (lookupLast l k).getD (Go.Map.get m k) := by
  -- both sides are decided by the LAST binding of `k` in `l`: induction from that end (`Map.get_set` for the last
  -- insertion, `find?` on the head of the reversed list for `lookupLast`)
  rw [← l.reverse_reverse]
  generalize l.reverse = r
  induction r with
  | nil => rfl
  | cons a t ih =>
    simp only [mapOfList, lookupLast, List.reverse_cons, List.foldl_append, List.foldl_cons, List.foldl_nil,
      List.reverse_append, List.reverse_nil, List.nil_append, List.cons_append, List.find?_cons,
      Map.get_set] at ih ⊢
    cases a.1 == k
    · exact ih
    · rfl

/-- one item of the cookie header: `len(parts) != 2` is the model's `| [n, v] => … | _ => none` -/
theorem decode_step (parts : List Str) (s : Go.Map) :
    (if (Go.len parts != 2) = true then (pure (.yield s) : Go.M (ForInStep Go.Map))
     else do
       let a ← Go.idx parts 0
       let b ← Go.idx parts 1
       pure (.yield (Go.Map.set s a b)))
    = .ok (.yield ((match parts with | [n, v] => some (n, v) | _ => none : Option (Str × Str)).elim s
        fun kv => Go.Map.set s kv.1 kv.2)) := by
  rcases parts with _ | ⟨n, _ | ⟨v, _ | ⟨w, r⟩⟩⟩ <;> simp [Go.len, Go.idx, go_simp] <;> omega

theorem foldl_filterMap_elim {α β γ : Type} (f : α → Option β) (g : γ → β → γ) (l : List α) (init : γ) :
    (l.filterMap f).foldl g init = l.foldl (fun x y => (f y).elim x (g x)) init := by
  rw [List.foldl_filterMap]; congr; funext x y; cases f y <;> rfl

theorem code_decodeCookies (env : Go.Env) (hdr : Str) :
    Code.DecodeCookiesHeader env hdr = .ok (mapOfList (decodeCookies hdr)) := by
  unfold Code.DecodeCookiesHeader mapOfList decodeCookies
  dsimp only
  rw [foldl_filterMap_elim, forIn_fold]
  · rfl
  · exact fun c s => decode_step _ s

theorem code_sessionIdFromCookie (env : Go.Env) (headers : Go.Map) (c : Pb.OIDCConfig) (cfg : Cfg)
    (h : cfg.cookiePrefix = c.GetCookieNamePrefix) :
    Code.getSessionIDFromCookie env headers c = .ok (sessionIdFromCookie cfg (Go.Map.get headers (B "cookie"))) := by
  unfold Code.getSessionIDFromCookie sessionIdFromCookie
  simp only [go_simp, code_getCookieName env c cfg h, code_decodeCookies, Code.HeaderCookie]
  by_cases hv : Go.Map.get headers (B "cookie") = []
  · simp [hv]
  · -- the loop finds the entry `m[cookieName]` of the map the header decodes to: the last binding of that name
    simp only [if_neg hv, beq_false_of_ne hv]
    rw [forIn_find _ (fun x : Str × Str => x.1 == cookieName cfg) (·.2),
      ← show _ = (lookupLast _ (cookieName cfg)).getD [] from map_get_mapOfList _ [] _, Map.get_eq_find (mapOfList _)]
    cases Option.map _ (List.find? _ (mapOfList _)) <;> rfl

theorem code_tokensExpired (env : Go.Env) (o : Pb.OidcHandler) (t : Pb.TokenResponse) (cfg : Cfg) (a : TokAttrs) (tok : Tokens)
    (now : Int) (jt : Go.JwtToken)
    (ho : o.isNil = false) (ht : t.isNil = false)
    (hp : env.parseTokenOracle t.IDToken = (jt, false)) (hj : jt.isNil = false) (hexp : jt.exp.unixNano = some a.exp)
    (hnow : env.now.unixNano = some now)
    (hacc : cfg.access.isSome = !o.config.GetAccessToken.isNil)
    (h2 : tok.accessToken = t.AccessToken) (h3 : tok.accessExp = t.AccessTokenExpiresAt.unixNano) :
    Code.areRequiredTokensExpired env o t = .ok (tokensExpired cfg a tok now, {}) := by
  unfold Code.areRequiredTokensExpired tokensExpired
  simp only [go_simp, Go.Env.parseToken, hp, ho, ht, hj, Go.Time.before, hexp, hnow, hacc, h2, h3]
  by_cases h1 : a.exp < now
  · simp [h1]
  · cases o.config.GetAccessToken.isNil
    · by_cases h5 : t.AccessToken = []
      · simp [h1, h5]
      · cases h6 : t.AccessTokenExpiresAt.unixNano with
        | none => simp [h1, h5]
        | some ex => by_cases h7 : ex < now <;> simp [h1, h5, h7]
    · simp [h1]

theorem code_tokensExpired_unparsable (env : Go.Env) (o : Pb.OidcHandler) (t : Pb.TokenResponse) (jt : Go.JwtToken)
    (ht : t.isNil = false) (hp : env.parseTokenOracle t.IDToken = (jt, true)) :
    Code.areRequiredTokensExpired env o t = .ok (false, { isNil := false }) := by
  -- `ParseIDToken` reports an error and the function returns at once
  rw [Code.areRequiredTokensExpired, show Pb.parseIDToken env t = .ok (jt, { isNil := false }) by
    simp only [go_simp, Go.Env.parseToken, hp, ht]]
  rfl

end AuthModel
