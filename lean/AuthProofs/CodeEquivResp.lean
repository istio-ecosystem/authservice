/-
  The response builders of internal/authz/oidc.go, as translated from the source (Generated/CodeOidc.lean:
  newDenyResponse, newSessionErrorResponse, setDenyResponse, setRedirect, setSetCookieHeader, allowResponse and the
  package-level value standardResponseHeaders), against the responses of the handler model (`Oidc.deny`, `sessErr`,
  `found`, `redirectWithCookie`, `allow`).

  `respOf` reads an `*envoy.CheckResponse` the way Envoy (and the harness's canonical form) does: the gRPC code through
  the nil-safe getters, the HTTP part through the oneof.  The theorems compose the builders exactly as the call sites of
  oidc.go do (`setDenyResponse(resp, newDenyResponse(), code)`; `deny := newDenyResponse(); setRedirect(deny, loc);
  setSetCookieHeader(deny, cookie); setDenyResponse(resp, deny, Unauthenticated)`; …).
-/
import AuthModel.Generated.CodeOidc
import AuthModel.Oidc.Handler
import AuthProofs.CodeEquivOidc
namespace AuthModel.CodeEquiv
open AuthModel AuthModel.Str AuthModel.Oidc AuthModel.Go

/-- header list of a response as Envoy reads it: (key, value) of every option, nil-safe -/
def hdrsOf (hs : List Pb.HeaderValueOption) : Headers :=
  hs.map fun h => (h.GetHeader.GetKey, h.GetHeader.GetValue)

theorem hdrsOf_append (a b : List Pb.HeaderValueOption) : hdrsOf (a ++ b) = hdrsOf a ++ hdrsOf b :=
  List.map_append

/-- the headers of an OK response; a nil one has none -/
def okOf (o : Pb.OkHttpResponse) : Headers := if o.isNil then [] else hdrsOf o.Headers

def deniedOf (d : Pb.DeniedHttpResponse) : Denied :=
  if d.isNil then {} else { status := d.Status.GetCode.toNat, headers := hdrsOf d.Headers, body := d.Body }

/-- the observable part of an `*envoy.CheckResponse`.  The model's codes are `Nat`: `toNat` would read a negative code
    as 0 - the code OK, a trap.  The builders write none: `setDenyResponse` takes a `codes.Code` (unsigned in Go, `Int` in the
    translation), `setRedirect` the constant 302. -/
def respOf (r : Pb.CheckResponse) : Resp :=
  { code := r.GetStatus.GetCode.toNat
    message := if r.GetStatus.isNil then [] else r.GetStatus.Message
    http := match r.HttpResponse with
      | .nil => .none
      | .OkResponse v => .ok (okOf v.OkResponse)
      | .DeniedResponse v => .denied (deniedOf v.DeniedResponse) }

/-- the OK headers a response already carries (what an earlier filter of the chain left) -/
def prevOk (r : Pb.CheckResponse) : Headers := okOf r.GetOkResponse

theorem code_stdHeaders : hdrsOf Code.standardResponseHeaders = stdHeaders := by decide +kernel

/-- `newDenyResponse()`: the standard no-cache headers, nothing else, and it cannot panic -/
theorem code_newDeny (env : Go.Env) :
    ∃ d, Code.newDenyResponse env = .ok d ∧ d.isNil = false ∧ deniedOf d = { headers := stdHeaders } :=
  ⟨_, rfl, rfl, by rw [← code_stdHeaders]; rfl⟩

theorem code_newSessErr (env : Go.Env) :
    ∃ d, Code.newSessionErrorResponse env = .ok d ∧ d.isNil = false ∧ deniedOf d = { body := sessionErrorBody } :=
  ⟨{ Body := sessionErrorBody }, rfl, rfl, by simp [deniedOf, hdrsOf, Pb.HttpStatus.GetCode]⟩

/-- `setDenyResponse(resp, deny, code)`: the gRPC code and the denied HTTP response are REPLACED (whatever an earlier
    filter left is gone); a nil `resp` panics -/
theorem code_setDeny (env : Go.Env) (resp : Pb.CheckResponse) (d : Pb.DeniedHttpResponse) (code : Int)
    (hr : resp.isNil = false) :
    ∃ r, Code.setDenyResponse env resp d code = .ok r ∧ r.isNil = false ∧
      respOf r = { code := code.toNat, http := .denied (deniedOf d) } := by
  refine ⟨{ resp with HttpResponse := .DeniedResponse ⟨d⟩, Status := { Code := code } }, ?_, hr, ?_⟩
  · unfold Code.setDenyResponse
    simp only [go_simp, hr]
  · simp [respOf, Pb.CheckResponse.GetStatus, Pb.Status.GetCode, hr]

def mkOpt (x : Str × Str) : Pb.HeaderValueOption := { Header := { Key := x.1, Value := x.2 } }

theorem hdrsOf_mkOpt (kvs : List (Str × Str)) : hdrsOf (kvs.map mkOpt) = kvs := by
  rw [hdrsOf, List.map_map]; exact (List.map_congr_left fun _ _ => rfl).trans (List.map_id _)

theorem deniedOf_addHeader (d : Pb.DeniedHttpResponse) (hd : d.isNil = false) (st : Pb.HttpStatus) (kv : Str × Str) :
    deniedOf { d with Status := st, Headers := d.Headers ++ [mkOpt kv] } =
      { deniedOf d with status := st.GetCode.toNat, headers := (deniedOf d).headers ++ [kv] } := by
  simp [deniedOf, hd, hdrsOf_append]; rfl

theorem code_setRedirect (env : Go.Env) (d : Pb.DeniedHttpResponse) (loc : Str) (hd : d.isNil = false) :
    ∃ d', Code.setRedirect env d loc = .ok d' ∧ d'.isNil = false ∧
      deniedOf d' = { deniedOf d with status := 302, headers := (deniedOf d).headers ++ [(B "location", loc)] } := by
  refine ⟨{ d with Status := { Code := 302 }, Headers := d.Headers ++ [mkOpt (B "location", loc)] }, ?_, hd,
    deniedOf_addHeader d hd _ _⟩
  unfold Code.setRedirect
  simp only [go_simp, hd]
  rfl

theorem code_setSetCookie (env : Go.Env) (d : Pb.DeniedHttpResponse) (cookie : Str) (hd : d.isNil = false) :
    ∃ d', Code.setSetCookieHeader env d cookie = .ok d' ∧ d'.isNil = false ∧
      deniedOf d' = { deniedOf d with headers := (deniedOf d).headers ++ [(B "set-cookie", cookie)] } := by
  refine ⟨{ d with Headers := d.Headers ++ [mkOpt (B "set-cookie", cookie)] }, ?_, hd,
    (deniedOf_addHeader d hd d.Status _).trans ?_⟩
  · unfold Code.setSetCookieHeader
    simp only [go_simp, hd]
    rfl
  · simp [deniedOf, hd]

/-- `setDenyResponse(resp, newDenyResponse(), code)` is the model's `deny code` -/
theorem code_deny (env : Go.Env) (resp : Pb.CheckResponse) (code : Int) (hr : resp.isNil = false) :
    ∃ r, (do let d ← Code.newDenyResponse env; Code.setDenyResponse env resp d code) = .ok r ∧
      respOf r = deny code.toNat := by
  obtain ⟨d, h1, _, h3⟩ := code_newDeny env
  obtain ⟨r, h4, _, h6⟩ := code_setDeny env resp d code hr
  refine ⟨r, ?_, ?_⟩
  · rw [h1, ok_bind, h4]
  · rw [h6, h3]; rfl

/-- `setDenyResponse(resp, newSessionErrorResponse(), codes.Unauthenticated)` is the model's `sessErr` -/
theorem code_sessErr (env : Go.Env) (resp : Pb.CheckResponse) (hr : resp.isNil = false) :
    ∃ r, (do let d ← Code.newSessionErrorResponse env; Code.setDenyResponse env resp d 16) = .ok r ∧
      respOf r = sessErr := by
  obtain ⟨d, h1, _, h3⟩ := code_newSessErr env
  obtain ⟨r, h4, _, h6⟩ := code_setDeny env resp d 16 hr
  refine ⟨r, ?_, ?_⟩
  · rw [h1, ok_bind, h4]
  · rw [h6, h3]; rfl

/-- `deny := newDenyResponse(); setRedirect(deny, loc); setDenyResponse(resp, deny, Unauthenticated)` is `found loc` -/
theorem code_found (env : Go.Env) (resp : Pb.CheckResponse) (loc : Str) (hr : resp.isNil = false) :
    ∃ r, (do let d ← Code.newDenyResponse env
             let d ← Code.setRedirect env d loc
             Code.setDenyResponse env resp d 16) = .ok r ∧
      respOf r = found loc := by
  obtain ⟨d, h1, h2, h3⟩ := code_newDeny env
  obtain ⟨d', h4, h5, h6⟩ := code_setRedirect env d loc h2
  obtain ⟨r, h7, _, h9⟩ := code_setDeny env resp d' 16 hr
  refine ⟨r, ?_, ?_⟩
  · rw [h1, ok_bind, h4, ok_bind, h7]
  · rw [h9, h6, h3]; rfl

/-- the redirect that also sets the session cookie (to the IdP with a new session, or after logout with `deleted`) -/
theorem code_redirectWithCookie (env : Go.Env) (resp : Pb.CheckResponse) (loc cookie : Str) (hr : resp.isNil = false) :
    ∃ r, (do let d ← Code.newDenyResponse env
             let d ← Code.setRedirect env d loc
             let d ← Code.setSetCookieHeader env d cookie
             Code.setDenyResponse env resp d 16) = .ok r ∧
      respOf r = redirectWithCookie loc cookie := by
  obtain ⟨d, h1, h2, h3⟩ := code_newDeny env
  obtain ⟨d', h4, h5, h6⟩ := code_setRedirect env d loc h2
  obtain ⟨d'', h7, h8, h9⟩ := code_setSetCookie env d' cookie h5
  obtain ⟨r, h10, _, h12⟩ := code_setDeny env resp d'' 16 hr
  refine ⟨r, ?_, ?_⟩
  · rw [h1, ok_bind, h4, ok_bind, h7, ok_bind, h10]
  · rw [h12, h9, h6, h3]
    simp [redirectWithCookie, cUnauthenticated]

/-- `setRedirect` keeps the headers its argument carries.  (A redirect is `setRedirect` applied to a `newDenyResponse()`,
    the only constructor with headers, and no builder removes one: so it carries the no-cache pair.) -/
theorem code_redirect_keeps_headers (env : Go.Env) (d : Pb.DeniedHttpResponse) (loc : Str) (hd : d.isNil = false) :
    ∀ d', Code.setRedirect env d loc = .ok d' → ∀ h ∈ (deniedOf d).headers, h ∈ (deniedOf d').headers := by
  intro d' h1 h hh
  obtain ⟨d2, h2, _, h4⟩ := code_setRedirect env d loc hd
  cases h2.symm.trans h1
  rw [h4]; exact List.mem_append_left _ hh

/-- a loop that appends one header option per entry -/
theorem forIn_hdrs (kvs : List (Str × Str)) (ok : Pb.OkHttpResponse) (hn : ok.isNil = false)
    (body : Str × Str → Pb.OkHttpResponse → Go.M (ForInStep Pb.OkHttpResponse))
    (hb : ∀ x r, r.isNil = false → body x r = .ok (.yield { r with Headers := r.Headers ++ [mkOpt x] })) :
    forIn kvs ok body = .ok { ok with Headers := ok.Headers ++ kvs.map mkOpt } := by
  induction kvs generalizing ok with
  | nil => simp [go_simp]
  | cons kv t ih =>
    simp only [List.forIn_cons, hb kv ok hn, ok_bind]
    rw [ih { ok with Headers := ok.Headers ++ [mkOpt kv] } hn]; simp

theorem prevOk_of_nil (r : Pb.CheckResponse) (h : r.GetOkResponse.isNil = true) : prevOk r = [] := by
  simp [prevOk, okOf, h]

/-- `o.allowResponse(resp, tokens)` is the model's `allow`: gRPC OK, and the token headers are APPENDED to the OK headers
    an earlier filter of the chain left on `resp` (a denied HTTP part left there is replaced).  The appended headers come
    in the order of `Go.Map.entries`, insertion order; the source ranges over a Go map, so when two are appended the real
    code may emit them in either order. -/
theorem code_allow (env : Go.Env) (o : Pb.OidcHandler) (resp : Pb.CheckResponse) (t : Pb.TokenResponse) (cfg : Cfg) (tok : Tokens)
    (hr : resp.isNil = false)
    (ho : o.isNil = false) (hc : o.config.isNil = false) (ht : t.isNil = false)
    (hid : cfg.idHeader = o.config.IdToken.GetHeader) (hpre : cfg.idPreamble = o.config.IdToken.GetPreamble)
    (hacc : cfg.access = if o.config.AccessToken.isNil then none else some (o.config.AccessToken.Header, o.config.AccessToken.Preamble))
    (h1 : tok.idToken = t.IDToken) (h2 : tok.accessToken = t.AccessToken) :
    ∃ r, Code.allowResponse env o resp t = .ok r ∧ respOf r = allow cfg (prevOk resp) tok := by
  unfold Code.allowResponse
  -- in source order: `env`, `r0` and `ok0` (the `resp` and `ok` of the first two lines), `jp` (the rest of the function
  -- after the `if`, for the OK response it goes on with) and `new` (`Pb.OkHttpResponse.new`)
  extract_lets _ r0 ok0 jp new
  have hjp : ∀ ok : Pb.OkHttpResponse, ok.isNil = false → hdrsOf ok.Headers = prevOk resp →
      ∃ r, jp () ok = .ok r ∧ respOf r = allow cfg (prevOk resp) tok := by
    intro ok hn hp
    simp only [jp, r0, go_simp, code_encodeTokens env o t cfg tok ho hc ht hid hpre hacc h1 h2, hr]
    rw [forIn_hdrs _ _ hn]
    · exact ⟨_, rfl, by simp [respOf, allow, Pb.CheckResponse.GetStatus, Pb.Status.GetCode, okOf, hn, hdrsOf_append,
        hdrsOf_mkOpt, cOK, hp]⟩
    · intro x r hx; simp only [hx, go_simp]; rfl
  -- `ok` is the OK response `resp` carries, or a fresh one when it carries none: not nil either way
  cases h : resp.GetOkResponse.isNil <;> simp only [ok0, r0, if_true, if_false, Bool.false_eq_true]
  · exact hjp _ h (by simp [prevOk, okOf, h])
  · exact hjp _ rfl (prevOk_of_nil resp h).symm

/-! ### examples (the hypotheses are satisfiable; the values are the ones the harness sees) -/

example : (do let d ← Code.newDenyResponse {}; Code.setDenyResponse {} Pb.CheckResponse.new d 3).map respOf
    = .ok (deny cInvalidArgument) := by decide +kernel

example : (do let d ← Code.newDenyResponse {}
              let d ← Code.setRedirect {} d (B "https://idp/auth")
              let d ← Code.setSetCookieHeader {} d (B "c=v")
              Code.setDenyResponse {} Pb.CheckResponse.new d 16).map respOf
    = .ok (redirectWithCookie (B "https://idp/auth") (B "c=v")) := by rw [B_ofList, B_ofList]; decide +kernel

/-- a nil response panics (`Check` never passes one: every chain starts from `&envoy.CheckResponse{}`) -/
example : Code.setDenyResponse {} { isNil := true } {} 3 = .error "invalid memory address or nil pointer dereference" := rfl

end AuthModel.CodeEquiv
