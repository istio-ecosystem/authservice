/-
  F8 obligations: the regenerated state inventory IS the classified expectation (AuthModel/StateExpect.lean). Only the
  `names` equations below compare with what is regenerated from the source; the `ofClass "state" .. = [..]` parts of the
  inventories restate, by `rfl`, which of the hand-classified entries are classed as state.
-/
import AuthModel.Generated.State
import AuthModel.StateExpect
namespace AuthModel
open StateExpect

theorem state_server : Generated.stateServer = names server := rfl
theorem state_authz : Generated.stateAuthz = names authz := rfl
theorem state_oidc : Generated.stateOidc = names oidc := rfl
theorem state_http : Generated.stateHttp = names http := rfl
theorem state_internal : Generated.stateInternal = names internal := rfl
theorem state_k8s : Generated.stateK8s = names k8s := rfl

/-- the filter (internal/server): trigger rules and chain selection are functions of the request and the configuration -
    no mutable field in ExtAuthZFilter, no package-level variable besides the two response constructors -/
def FilterInventory : Prop :=
  Generated.stateServer = names server ∧
  ofClass "state" server = ["healthServer.server", "healthServer.l", "Server.server"]
theorem filter_inventory : FilterInventory := ⟨state_server, rfl⟩

/-- the session stores (internal/oidc): they keep nothing but what the model says they keep - the
    Redis store has no mutable field (all its state is server-side), the memory store has its mutex, its map and the four
    fields of an entry -/
def StoreInventory : Prop :=
  Generated.stateOidc = names oidc ∧
  ofClass "state" oidc =
      ["var discovery.go:wellKnownConfigs", "var discovery.go:wellKnownConfigsMu", "DefaultJWKSProvider.cache",
       "DefaultJWKSProvider.started", "memoryStore.mu", "memoryStore.sessions", "session.tokenResponse",
       "session.authorizationState", "session.added", "session.accessed", "sessionStoreFactory.redis",
       "sessionStoreFactory.memory"]
theorem store_inventory : StoreInventory := ⟨state_oidc, rfl⟩

/-- NO HIDDEN STATE ON THE CHECK PATH.  The model treats a check as a function of (configuration, request, store
    answers, clock, IdP and key-source answers, entropy); that is a faithful reading of the code only if nothing else
    survives from one check to the next.  Regenerated on every run: the inventory of package-level variables and struct
    fields of internal/server, internal/authz, internal/http and internal/oidc is the classified expectation, and in it
    the handlers, the filter, the HTTP helpers and the Redis store own no mutable state (no verdict cache, handler cache,
    object pool, single-flight group or per-process copy of session data); what outlives a check is what the last two
    lists name: the servers and the listener of internal/server, and in internal/oidc the discovery cache and the in-memory
    session map, each with its mutex, the entries of that map, the JWKS cache with its `started` flag, and the factory's
    stores. -/
def CheckPathInventory : Prop :=
  Generated.stateServer = names server ∧ Generated.stateAuthz = names authz ∧ Generated.stateHttp = names http ∧
  Generated.stateOidc = names oidc ∧ ofClass "state" authz = [] ∧ ofClass "state" http = [] ∧
  ofClass "state" server = ["healthServer.server", "healthServer.l", "Server.server"] ∧
  ofClass "state" oidc =
      ["var discovery.go:wellKnownConfigs", "var discovery.go:wellKnownConfigsMu", "DefaultJWKSProvider.cache",
       "DefaultJWKSProvider.started", "memoryStore.mu", "memoryStore.sessions", "session.tokenResponse",
       "session.authorizationState", "session.added", "session.accessed", "sessionStoreFactory.redis",
       "sessionStoreFactory.memory"]

theorem check_path_inventory : CheckPathInventory :=
  ⟨state_server, state_authz, state_http, state_oidc, rfl, rfl, filter_inventory.2, store_inventory.2⟩

/-- loader, TLS pool, file watcher (package internal), internal/http and the secret controller (internal/k8s): the only
    mutable state is the watcher table, the pool map and the secret index -/
def InfraInventory : Prop :=
  Generated.stateInternal = names internal ∧ Generated.stateK8s = names k8s ∧ Generated.stateHttp = names http ∧
  ofClass "state" internal =
      ["FileWatcher.mu", "FileWatcher.watchers", "watcher.ctx", "watcher.cancel", "watcher.data", "tlsConfigPool.mu",
       "tlsConfigPool.configs"] ∧ ofClass "state" k8s = ["SecretController.secrets"]
theorem infra_inventory : InfraInventory :=
  ⟨state_internal, state_k8s, state_http, rfl, rfl⟩

end AuthModel
