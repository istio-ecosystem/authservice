import AuthModel.Chain
namespace AuthModel

/-- every filter of `fs`, run in order from `r`, answered OK and the last one left `out` -/
def AllAllow : List Filter → Resp → Resp → Prop
  | [], r, out => out = r
  | f :: fs, r, out => ∃ r', f r = some r' ∧ r'.code = cOK ∧ AllAllow fs r' out

/-- Reference evaluator for the chain selection: `find?` in place of the chain loop of `Check`. The filter loop of the
    selected chain is the model's own `runFilters`. -/
def judge (allowUnmatched : Bool) (chains : List Chain) (hdrs : Headers) : Option Resp :=
  match chains.find? (fun c => chainMatches c.criterion hdrs) with
  | none => some (if allowUnmatched then allowResp else noChainResp)
  | some c => if c.filters.isEmpty then some allowResp else runFilters c.filters Resp.empty

theorem runChains_eq_judge (au : Bool) (chains : List Chain) (hdrs : Headers) :
    runChains au hdrs chains = judge au chains hdrs := by
  induction chains with
  | nil => rfl
  | cons c cs ih =>
    rw [runChains, ih, judge, judge, List.find?_cons]
    cases chainMatches c.criterion hdrs <;> rfl

theorem runFilters_ok_allAllow (fs : List Filter) (r out : Resp)
    (h : runFilters fs r = some out) (hok : out.code = cOK) : AllAllow fs r out := by
  induction fs generalizing r with
  | nil => cases h; rfl
  | cons f fs ih =>
    rw [runFilters] at h
    split at h
    · cases h
    · next r' hf =>
      split at h
      · next hc => exact ⟨r', hf, by simpa using hc, ih r' h⟩
      · next hc => cases h; exact absurd (by simpa using hok) hc

theorem runFilters_append {pre : List Filter} {r r' : Resp} (rest : List Filter) (h : AllAllow pre r r') :
    runFilters (pre ++ rest) r = runFilters rest r' := by
  induction pre generalizing r with
  | nil => cases h; rfl
  | cons g gs ih =>
    obtain ⟨r1, hg, hok, hrest⟩ := h
    simp [runFilters, hg, hok, ih hrest]

end AuthModel
