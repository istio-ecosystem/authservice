import Lean.Meta.Tactic.Simp.RegisterCommand

/-- Simp set for running translated Go code (`Go.M` = `Except String`): the monad laws on `.ok`/`.error`, the translator's
    explicit short circuits of `&&` / `||`, `if` on `true` / `false` with the `Bool` facts that decide it, the partial selectors
    `x.F!` of AuthModel/Pb.lean, and a few wrappers of AuthModel/GoLib.lean around `Str` functions, unfolded (the list is in
    GoLemmas.lean; `len`, `index`, `strIdx`, `Map.get` .. are NOT in it: they have lemmas). -/
register_simp_attr go_simp
