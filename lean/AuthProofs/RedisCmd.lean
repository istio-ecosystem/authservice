/-
  A small logic for "a failed command is never reported as success" (`Strict`, `Always`: one rule per program former);
  without faults a command program is the functional model of `Store/Redis.lean` (the `*_nil` lemmas).
-/
import AuthModel.Store.RedisCmd
import AuthProofs.Redis
namespace AuthModel
namespace RedisCmd
open Redis
variable {α : Type} {bad : α → Prop}

theorem run_ret (now : Int) (fs : List Fault) (a : α) (h : RHash) :
    run now fs (.ret a : RP α) h = { state := h, res := a, faulted := false, issued := [] } := by
  cases fs <;> rfl

theorem run_nil_ret {α : Type} (now : Int) (a : α) (h : RHash) :
    run now [] (.ret a : RP α) h = { state := h, res := a, faulted := false, issued := [] } := rfl

/-- The head of the fault script decides the fate of the command; an exhausted script answers everything. -/
theorem run_step (now : Int) (fs : List Fault) (c : Cmd) (k : Reply → RP α) (h : RHash) :
    run now fs (.cmd c k) h =
      match fs.headD .none with
      | .none =>
        let o := run now fs.tail (k (c.exec now h).2) (c.exec now h).1
        { o with issued := c.name :: o.issued }
      | .lost applied =>
        let o := run now fs.tail (k .fail) (if applied then c.eff now h else h)
        { o with faulted := true, issued := c.name :: o.issued } := by
  cases fs with
  | nil => rfl
  | cons f fs => cases f <;> rfl

/-- a run in which no command got an error reply is the fault-free run -/
theorem run_unfaulted (now : Int) (p : RP α) :
    ∀ (fs : List Fault) (h : RHash), (run now fs p h).faulted = false → run now fs p h = run now [] p h := by
  induction p with
  | ret a => intro fs h _; rw [run_ret]; rfl
  | cmd c k ih =>
    intro fs h hf
    rw [run_step] at hf ⊢
    generalize fs.headD .none = f at hf ⊢
    cases f with
    | none => simp only at hf ⊢; rw [ih _ _ _ hf]; rfl
    | lost a => cases hf

theorem run_nil_unfaulted {α : Type} (now : Int) (p : RP α) : ∀ h, (run now [] p h).faulted = false := by
  induction p with
  | ret a => intro h; rfl
  | cmd c k ih => intro h; exact ih _ _

/-- what the caller of a store method sees -/
def Outcome.out (o : Outcome α) : RHash × α := (o.state, o.res)

/-- `Strict bad p`: whenever some command of `p` gets an error reply, `p` returns `bad` -/
def Strict (bad : α → Prop) (p : RP α) : Prop :=
  ∀ now fs h, (run now fs p h).faulted = true → bad (run now fs p h).res

/-- `Always bad p`: `p` returns `bad` whatever happens -/
def Always (bad : α → Prop) (p : RP α) : Prop := ∀ now fs h, bad (run now fs p h).res

theorem always_ret {a : α} (h : bad a) : Always bad (.ret a) := by
  intro now fs s; rw [run_ret]; exact h

theorem always_cmd {c : Cmd} {k : Reply → RP α} (hk : ∀ r, Always bad (k r)) :
    Always bad (.cmd c k) := by
  intro now fs s
  rw [run_step]
  cases fs.headD .none <;> exact hk _ now _ _

theorem strict_ret {a : α} : Strict bad (.ret a) := by
  intro now fs s hf; rw [run_ret] at hf; cases hf

theorem strict_cmd {c : Cmd} {k : Reply → RP α}
    (hk : ∀ r, Strict bad (k r)) (hfail : Always bad (k .fail)) : Strict bad (.cmd c k) := by
  intro now fs s hf
  rw [run_step] at hf ⊢
  generalize fs.headD .none = f at hf ⊢
  cases f with
  | none => exact hk _ now _ _ hf
  | lost a => exact hfail now _ _

theorem strict_of_always {p : RP α} (h : Always bad p) : Strict bad p :=
  fun now fs s _ => h now fs s

/-- under a strict program a result that is not `bad` means that no command failed: the run is the fault-free one -/
theorem Strict.run_eq {p : RP α} (hp : Strict bad p) (now : Int) (fs : List Fault)
    (h : RHash) (hok : ¬ bad (run now fs p h).res) : run now fs p h = run now [] p h := by
  apply run_unfaulted
  cases hf : (run now fs p h).faulted with
  | false => rfl
  | true => exact absurd (hp now fs h hf) hok

def isFail (b : Bool) : Prop := b = false
def isErr (r : SRes α) : Prop := r = .err

theorem must_strict {c : Cmd} {e : α} {next : RP α} (hn : Strict bad next) (he : bad e) :
    Strict bad (must c e next) :=
  strict_cmd (fun r => by
    cases r with
    | fail => exact strict_ret
    | _ => exact hn) (always_ret he)

theorem expirePart_strict (abs idle now ta : Int) : Strict isFail (expirePart abs idle now ta) := by
  unfold expirePart
  split
  · exact strict_ret
  · exact must_strict strict_ret rfl

theorem delAndFail_always : Always isFail delAndFail :=
  always_cmd fun _ => always_ret rfl

theorem refreshP_strict (abs idle now : Int) (ta : Option Int) : Strict isFail (refreshP abs idle now ta) := by
  cases ta with
  | some t => exact expirePart_strict abs idle now t
  | none =>
    refine strict_cmd (fun r => ?_) delAndFail_always
    cases r with
    | hash h =>
      dsimp only
      cases h.timeAdded with
      | none => exact strict_of_always delAndFail_always
      | some t => exact expirePart_strict abs idle now t
    | _ => exact strict_of_always delAndFail_always

theorem seqP_strict (cs : List Cmd) {next : RP Bool} (hn : Strict isFail next) : Strict isFail (seqP cs next) := by
  induction cs with
  | nil => exact hn
  | cons c cs ih => exact must_strict ih rfl

theorem setTokP_strict (abs idle now : Int) (t : Tokens) : Strict isFail (setTokP abs idle now t) :=
  seqP_strict _ (refreshP_strict abs idle now none)

theorem setAuthP_strict (abs idle now : Int) (a : AuthState) : Strict isFail (setAuthP abs idle now a) :=
  seqP_strict _ (refreshP_strict abs idle now none)

theorem clearAuthP_strict (abs idle now : Int) : Strict isFail (clearAuthP abs idle now) :=
  seqP_strict _ (refreshP_strict abs idle now none)

theorem removeP_strict : Strict isFail removeP :=
  must_strict strict_ret rfl

theorem liftRes_run (a : α) (now : Int) (p : RP Bool) :
    ∀ fs h, run now fs (liftRes a p) h =
      { run now fs p h with res := cond (run now fs p h).res (.ok a) .err } := by
  induction p with
  | ret b => intro fs h; rw [liftRes, run_ret, run_ret]
  | cmd c k ih =>
    intro fs h
    rw [liftRes, run_step, run_step]
    cases fs.headD .none <;> simp only [ih]

theorem liftRes_strict {a : α} {p : RP Bool} (hp : Strict isFail p) : Strict isErr (liftRes a p) := by
  intro now fs h hf
  rw [liftRes_run] at hf ⊢
  exact congrArg (fun b => cond b (SRes.ok a) SRes.err) (hp now fs h hf)

/-- the common shape of `getTokP` and `getAuthP` (cf. `Redis.read`) -/
def readP (c : Cmd) (part : RHash → Option α) (abs idle now : Int) : RP (SRes (Option α)) :=
  .cmd c fun r =>
    match r with
    | .hash h =>
      (match part h with
      | none => .ret (.ok none)
      | some a => liftRes (some a) (refreshP abs idle now h.timeAdded))
    | _ => .ret .err

theorem getTokP_eq_readP (parses : Str → Bool) (abs idle now : Int) :
    getTokP parses abs idle now = readP .hmgetTok (tokPart parses) abs idle now := by
  unfold getTokP readP tokPart
  congr 1; funext r
  cases r with
  | hash h =>
    by_cases h1 : h.idToken.getD [] = []
    · simp [h1]
    · cases h2 : parses (h.idToken.getD []) <;> simp [h1, h2]
  | _ => rfl

theorem getAuthP_eq_readP (abs idle now : Int) : getAuthP abs idle now = readP .hmgetAuth authPart abs idle now := by
  unfold getAuthP readP authPart
  congr 1; funext r
  cases r with
  | hash h => dsimp only; split <;> rfl
  | _ => rfl

theorem readP_strict {c : Cmd} {part : RHash → Option α} {abs idle now : Int} :
    Strict isErr (readP c part abs idle now) := by
  refine strict_cmd (fun r => ?_) (always_ret rfl)
  cases r with
  | hash h =>
    dsimp only
    cases part h with
    | none => exact strict_ret
    | some a => exact liftRes_strict (refreshP_strict _ _ _ _)
  | _ => exact strict_ret

theorem getTokP_strict (parses : Str → Bool) (abs idle now : Int) : Strict isErr (getTokP parses abs idle now) :=
  getTokP_eq_readP .. ▸ readP_strict

theorem getAuthP_strict (abs idle now : Int) : Strict isErr (getAuthP abs idle now) :=
  getAuthP_eq_readP .. ▸ readP_strict

theorem expirePart_nil (abs idle now ta : Int) (h : RHash) :
    (run now [] (expirePart abs idle now ta) h).out = refreshTA abs idle now (some ta) h := by
  unfold expirePart refreshTA
  split <;> rfl

theorem refreshP_nil (abs idle now : Int) (ta : Option Int) (h : RHash) :
    (run now [] (refreshP abs idle now ta) h).out = refresh abs idle now ta h := by
  cases ta with
  | some t => exact expirePart_nil abs idle now t h
  | none =>
    -- HGET time_added is answered with the hash
    show (run now [] (match h.timeAdded with
        | some t => expirePart abs idle now t
        | none => delAndFail) h).out = refreshTA abs idle now h.timeAdded h
    cases h.timeAdded with
    | some t => exact expirePart_nil abs idle now t h
    | none => rfl

theorem seqP_nil (now : Int) (cs : List Cmd) (next : RP Bool) (h : RHash) :
    (run now [] (seqP cs next) h).out = (run now [] next (runSteps (cs.map (Cmd.eff now)) h)).out := by
  induction cs generalizing h with
  | nil => rfl
  -- the reply of a command depends on whether it reads, but `must` ignores every reply that is not `.fail`
  | cons c cs ih => cases hr : c.isRead <;> simp only [seqP, must, run, Cmd.exec, hr] <;> exact ih _

theorem writeP_nil (abs idle now : Int) (cs : List Cmd) (h : RHash) :
    (run now [] (seqP cs (refreshP abs idle now none)) h).out =
      refresh abs idle now none (runSteps (cs.map (Cmd.eff now)) h) :=
  (seqP_nil ..).trans (refreshP_nil ..)

/-- `HDEL` of the stale members: the command carries as flags what the step tests as propositions -/
theorem eff_hdelStale (now : Int) (p q : Prop) [Decidable p] [Decidable q] (e : Bool) :
    Cmd.eff now (.hdelStale (decide p) e (decide q)) = fun h => norm { h with
      accessToken := if p then none else h.accessToken,
      accessExp := if e then none else h.accessExp,
      refreshToken := if q then none else h.refreshToken } := by
  funext h; simp only [Cmd.eff, decide_eq_true_eq]

theorem setTokCmds_steps (t : Tokens) (now : Int) :
    (setTokCmds t now).map (Cmd.eff now) = setTokSteps t now := by
  simp only [setTokCmds, List.map_append, List.map_cons, apply_ite (List.map (Cmd.eff now)),
    eff_hdelStale]
  rfl

theorem setTokP_nil (abs idle now : Int) (t : Tokens) (h : RHash) :
    (run now [] (setTokP abs idle now t) (visible now h)).out = setTok abs idle now t h := by
  rw [setTokP, writeP_nil, setTokCmds_steps]; rfl

theorem setAuthP_nil (abs idle now : Int) (a : AuthState) (h : RHash) :
    (run now [] (setAuthP abs idle now a) (visible now h)).out = setAuth abs idle now a h :=
  writeP_nil ..

theorem clearAuthP_nil (abs idle now : Int) (h : RHash) :
    (run now [] (clearAuthP abs idle now) (visible now h)).out = clearAuth abs idle now h :=
  writeP_nil ..

theorem removeP_nil (now : Int) (h : RHash) :
    (run now [] removeP h).state = remove h ∧ (run now [] removeP h).res = true := ⟨rfl, rfl⟩

theorem readP_nil {c : Cmd} (part : RHash → Option α) (abs idle : Int) {now : Int}
    (hc : ∀ h, c.exec now h = (h, .hash h)) (v : RHash) :
    (run now [] (readP c part abs idle now) v).out = Redis.read part abs idle now v := by
  simp only [readP, Redis.read, run, hc]
  cases part v with
  | none => rfl
  | some a =>
    simp only [liftRes_run, ← refreshP_nil, Outcome.out]
    cases (run now [] (refreshP abs idle now v.timeAdded) v).res <;> rfl

theorem getTokP_nil (parses : Str → Bool) (abs idle now : Int) (h : RHash) :
    (run now [] (getTokP parses abs idle now) (visible now h)).out = getTok parses abs idle now h := by
  rw [getTokP_eq_readP, getTok_eq_read]; exact readP_nil _ _ _ (fun _ => rfl) _

theorem getAuthP_nil (abs idle now : Int) (h : RHash) :
    (run now [] (getAuthP abs idle now) (visible now h)).out = getAuth abs idle now h := by
  rw [getAuthP_eq_readP, getAuth_eq_read]; exact readP_nil _ _ _ (fun _ => rfl) _

/-- RemoveSession: reported success means the DEL was answered, hence applied: the key is gone -/
theorem removeP_ok_erases (now : Int) (fs : List Fault) (h : RHash) (hok : (run now fs removeP h).res = true) :
    (run now fs removeP h).state = {} := by
  rw [removeP_strict.run_eq now fs h (by rw [hok]; exact Bool.noConfusion)]
  exact (removeP_nil now h).1

/-- a read under faults never fabricates: what it returns is what `part` finds in the (visible) hash -/
theorem readP_sound {c : Cmd} {part : RHash → Option α} {abs idle now : Int}
    (hc : ∀ h, c.exec now h = (h, .hash h)) {fs : List Fault} {h : RHash} {a : α}
    (hok : (run now fs (readP c part abs idle now) h).res = .ok (some a)) : part h = some a := by
  rw [readP_strict.run_eq now fs h (by rw [hok]; exact fun e => nomatch e)] at hok
  exact read_ok_some ((congrArg Prod.snd (readP_nil part abs idle hc h)).symm.trans hok)

theorem getTokP_sound (parses : Str → Bool) (abs idle now : Int) (fs : List Fault) (h : RHash) (t : Tokens)
    (hok : (run now fs (getTokP parses abs idle now) h).res = .ok (some t)) :
    t = tokensOf h ∧ h.idToken.getD [] ≠ [] ∧ parses (h.idToken.getD []) = true := by
  rw [getTokP_eq_readP] at hok
  obtain ⟨hc, rfl⟩ := tokPart_eq_some.1 (readP_sound (fun _ => rfl) hok)
  exact ⟨rfl, hc⟩

end RedisCmd
end AuthModel
