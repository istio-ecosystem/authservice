import AuthModel.Trigger
namespace AuthModel

/-- The documented rule, as a proposition about the *path component* `p`. -/
def RuleSatisfied (re : ReOracle) (r : TriggerRule) (p : Str) : Prop :=
  (∀ e ∈ r.excluded, stringMatch re e p = false) ∧
  (r.included = [] ∨ ∃ i ∈ r.included, stringMatch re i p = true)

def Triggered (re : ReOracle) (rules : List TriggerRule) (p : Str) : Prop :=
  rules = [] ∨ p = [] ∨ ∃ r ∈ rules, RuleSatisfied re r p

theorem matchTriggerRule_iff (re : ReOracle) (r : TriggerRule) (p : Str) :
    matchTriggerRule re r p = true ↔ RuleSatisfied re r p := by
  simp [matchTriggerRule, RuleSatisfied]

end AuthModel
