/-
  The URL checks of the configuration loader (internal/config.go: validateURL, hasRootPath, validateOIDCConfigURLs), as
  translated from the source (Generated/CodeInternal.lean), against a specification over the same oracles
  (`url.Parse`, `redis.ParseURL`): `urlsAccepted`.  (No theorem relates it to `Config.validateOidcUrls` of the loader
  model, whose oracle has the opposite polarity: there `true` is "accepted", here `true` is "error".)

  `hasRootPath` documents a prerequisite ("u is a valid URL"): it dereferences the result of `url.Parse` without looking
  at the error.  Its only call site runs after `validateURL` accepted the same string; `code_validate_urls` shows that
  this order is what keeps the loader from panicking on an unparseable callback URI, for every configuration.
-/
import AuthModel.Generated.CodeInternal
import AuthModel.Config
import AuthProofs.CodeEquivInternal
namespace AuthModel.CodeEquiv
open AuthModel AuthModel.Str AuthModel.Go

/-- what `url.Parse` guarantees and the translated code relies on: no error means a non-nil URL -/
def UrlParseCoherent (env : Go.Env) : Prop := ∀ s, (env.urlParseOracle s).2 = false → (env.urlParseOracle s).1.isNil = false

/-- `validateURL(u) == nil` -/
def urlOk (env : Go.Env) (u : Str) : Bool := u == [] || !(env.urlParseOracle u).2

theorem code_validateURL (env : Go.Env) (u : Str) :
    ∃ e, Code.validateURL env u = .ok e ∧ e.isNil = urlOk env u := by
  unfold Code.validateURL urlOk
  by_cases h : u = []
  · exact ⟨{}, by simp [h, go_simp], by simp [h]⟩
  · exact ⟨(env.urlParse u).2, by simp [h, go_simp], by simp [h, Go.Env.urlParse]⟩

/-- one URL field: `if err := validateURL(u); err != nil { return … }` lets exactly the `urlOk` strings through -/
theorem validateURL_guard {α : Type} (env : Go.Env) (u : Str) (fail k : Go.M α) :
    (Code.validateURL env u >>= fun err => if (!err.isNil) = true then fail else k) = if urlOk env u then k else fail := by
  obtain ⟨e, h, he⟩ := code_validateURL env u
  rw [h, ok_bind, ← he]
  cases e.isNil <;> rfl

/-- `hasRootPath(uri)` does not panic when the URI is empty or parses (it does otherwise: the example below) -/
theorem code_hasRootPath (env : Go.Env) (uri : Str) (h : uri = [] ∨ (env.urlParseOracle uri).1.isNil = false) :
    Code.hasRootPath env uri = .ok (uri != [] && Config.isRootPath (env.urlParseOracle uri).1.Path) := by
  unfold Code.hasRootPath
  by_cases h0 : uri = []
  · simp [h0, go_simp]
  · simp [h0, go_simp, Go.Env.urlParse, h.resolve_left h0, code_isRootPath]

example : Code.hasRootPath {} (B "::bad") = .error "invalid memory address or nil pointer dereference" := rfl

/-- the Redis URI after the backwards-compatibility rewriting of `tcp://` -/
def redisAfter (c : Pb.OIDCConfig) : Str :=
  let r := c.GetRedisSessionStoreConfig.GetServerUri
  if r != [] then Go.replaceFirst r (B "tcp://") (B "redis://") else r

/-- the configuration after `validateOIDCConfigURLs` ran to its end -/
def rewritten (c : Pb.OIDCConfig) : Pb.OIDCConfig :=
  if c.GetRedisSessionStoreConfig.GetServerUri != [] then
    { c with RedisSessionStoreConfig := { c.GetRedisSessionStoreConfig with ServerUri := redisAfter c } }
  else c

/-- `validateOIDCConfigURLs(c) == nil`, over the oracles -/
def urlsAccepted (env : Go.Env) (c : Pb.OIDCConfig) : Bool :=
  urlOk env c.GetProxyUri && urlOk env c.GetTokenUri && urlOk env c.GetConfigurationUri &&
  urlOk env c.GetAuthorizationUri && urlOk env c.GetCallbackUri && urlOk env c.GetJwksFetcher.GetJwksUri &&
  (redisAfter c == [] || !env.redisParseURLOracle (redisAfter c)) &&
  !(c.GetCallbackUri != [] && Config.isRootPath (env.urlParseOracle c.GetCallbackUri).1.Path)

theorem getServerUri_ne_nil {c : Pb.OIDCConfig} (h : c.GetRedisSessionStoreConfig.GetServerUri ≠ []) :
    c.isNil = false ∧ c.RedisSessionStoreConfig.isNil = false ∧ c.GetRedisSessionStoreConfig = c.RedisSessionStoreConfig := by
  unfold Pb.OIDCConfig.GetRedisSessionStoreConfig Pb.RedisConfig.GetServerUri at *
  cases h1 : c.isNil <;> cases h2 : c.RedisSessionStoreConfig.isNil <;> simp_all

theorem rewritten_serverUri (c : Pb.OIDCConfig) :
    (rewritten c).GetRedisSessionStoreConfig.GetServerUri = redisAfter c := by
  by_cases hr : c.GetRedisSessionStoreConfig.GetServerUri = []
  · simp [rewritten, redisAfter, hr]
  · obtain ⟨hc, hrn, _⟩ := getServerUri_ne_nil hr
    have hne : (c.GetRedisSessionStoreConfig.GetServerUri != []) = true := by simpa using hr
    rw [rewritten, if_pos hne]
    simp [Pb.OIDCConfig.GetRedisSessionStoreConfig, Pb.RedisConfig.GetServerUri, hc, hrn]

theorem rewritten_callbackUri (c : Pb.OIDCConfig) : (rewritten c).GetCallbackUri = c.GetCallbackUri := by
  unfold rewritten; split <;> rfl

/-- a guard in front of a check that accepts `acc` and returns `cw` when it accepts -/
theorem guard_accepts {b acc : Bool} {k : Go.M (Go.Error × Pb.OIDCConfig)} {c cw : Pb.OIDCConfig}
    (h : b = true → ∃ e c', k = .ok (e, c') ∧ e.isNil = acc ∧ (e.isNil = true → c' = cw)) :
    ∃ e c', (if b then k else .ok ({ isNil := false }, c)) = .ok (e, c') ∧ e.isNil = (b && acc) ∧
      (e.isNil = true → c' = cw) := by
  cases b
  · exact ⟨_, _, rfl, rfl, fun h => nomatch h⟩
  · simpa using h rfl

/-- THE CODE's `validateOIDCConfigURLs`: cannot panic (whatever the configuration, nil included), accepts exactly the
    configurations `urlsAccepted` describes, and an accepted configuration comes back with its Redis URI rewritten and
    nothing else changed -/
theorem code_validate_urls (env : Go.Env) (c : Pb.OIDCConfig) (hcoh : UrlParseCoherent env) :
    ∃ e c', Code.validateOIDCConfigURLs env c = .ok (e, c') ∧ e.isNil = urlsAccepted env c ∧
      (e.isNil = true → c' = rewritten c) := by
  unfold Code.validateOIDCConfigURLs urlsAccepted
  -- in source order: `env`, `c0` (the `c` the function starts with), `ru` (`redisURI`) and `jp`: the join point after the
  -- rewriting of the Redis URI, a function of the configuration the rewriting leaves
  extract_lets _ c0 ru jp
  simp only [validateURL_guard, Bool.and_assoc]
  -- the six URL fields, one guard each
  refine guard_accepts fun _ => guard_accepts fun _ => guard_accepts fun _ =>
    guard_accepts fun _ => guard_accepts fun g5 => guard_accepts fun _ => ?_
  -- the callback URI passed validateURL: hasRootPath's prerequisite holds
  have hcb : c.GetCallbackUri = [] ∨ (env.urlParseOracle c.GetCallbackUri).1.isNil = false := by
    by_cases h0 : c.GetCallbackUri = []
    · exact Or.inl h0
    · exact Or.inr (hcoh _ (by simpa [urlOk, h0, c0] using g5))
  have hjp : ∀ c1 : Pb.OIDCConfig, c1.GetRedisSessionStoreConfig.GetServerUri = redisAfter c →
      c1.GetCallbackUri = c.GetCallbackUri → jp () c1 = .ok ({ isNil :=
        ((redisAfter c == [] || !env.redisParseURLOracle (redisAfter c)) &&
          !(c.GetCallbackUri != [] && Config.isRootPath (env.urlParseOracle c.GetCallbackUri).1.Path)) }, c1) := by
    intro c1 h1 h2
    -- `!=` unfolded: the same three booleans on both sides
    simp only [jp, h1, h2, go_simp, code_hasRootPath env _ hcb, Go.Env.redisParseURL, bne]
    cases redisAfter c == [] <;> cases env.redisParseURLOracle (redisAfter c) <;>
      cases (!(c.GetCallbackUri == []) && Config.isRootPath (env.urlParseOracle c.GetCallbackUri).1.Path) <;> rfl
  have h := hjp (rewritten c) (rewritten_serverUri c) (rewritten_callbackUri c)
  by_cases hr : c.GetRedisSessionStoreConfig.GetServerUri = []
  · -- no Redis URI: nothing is rewritten
    have hrw : rewritten c = c := by simp [rewritten, hr]
    rw [hrw] at h
    exact ⟨_, c, by simp only [ru, c0, hr]; exact h, rfl, fun _ => hrw.symm⟩
  · obtain ⟨hc, hrn, hget⟩ := getServerUri_ne_nil hr
    have hne : (c.GetRedisSessionStoreConfig.GetServerUri != []) = true := by simpa using hr
    have hrw : rewritten c = { c with RedisSessionStoreConfig := { c.GetRedisSessionStoreConfig with
        ServerUri := Go.replaceFirst c.GetRedisSessionStoreConfig.GetServerUri (B "tcp://") (B "redis://") } } := by
      simp [rewritten, redisAfter, hne]
    -- the two writes through pointers (`c`, `c.RedisSessionStoreConfig`) do not panic
    have d1 : Go.derefNil c.isNil c = .ok c := by simp [Go.derefNil, hc]
    have d2 : Go.derefNil c.GetRedisSessionStoreConfig.isNil c.GetRedisSessionStoreConfig =
        .ok c.GetRedisSessionStoreConfig := by simp [Go.derefNil, hget, hrn]
    rw [hrw] at h
    exact ⟨_, _, by simp only [ru, c0, B_empty, hne, if_true, d1, d2, ok_bind]; exact h, rfl, fun _ => hrw.symm⟩

end AuthModel.CodeEquiv
