/-
  The small functions of /repo's `internal` package, as translated (Generated/CodeInternal.lean). `skipOf` and `goParseBool`
  are how C20 `code_skip_verify_meaning` reads `BoolStrValue` (internal/boolstr.go) as the TLS model's `boolStr`
  (strconv.ParseBool is defined in GoLib.lean, not an oracle). `isRootPath` and `isCookieNameToken` (internal/config.go) are the
  loader model's functions of those names; the second is a counting loop over `s[i]` whose per-byte test is written differently
  in the source and in the model (`badTokenByte_spec`).
-/
import AuthModel.Generated.CodeInternal
import AuthModel.Tls
import AuthModel.Config
import AuthProofs.GoLemmas
namespace AuthModel
open Str Go

/-- the skip-verify setting of the model that a `*structpb.Value` stands for, as far as `BoolStrValue` can tell: a
    non-nil value of another kind (null, number, ..) reads as `.unset`, and like nil it means `false` there.  Elsewhere the
    two differ (`Tls.load` takes `.unset` for a NIL pointer): this is not the abstraction to read `LoadTLSConfig` through. -/
def skipOf (v : Pb.Value) : Tls.Skip :=
  if v.isNil then .unset else
  match v.Kind with
  | .BoolValue b => .bool b
  | .StringValue s => .str s
  | _ => .unset

/-- strconv.ParseBool as the model's oracle -/
def goParseBool : Str → Bool := fun s => (Go.parseBool s).1

theorem code_isRootPath (env : Go.Env) (p : Str) : Code.isRootPath env p = .ok (Config.isRootPath p) := by
  simp [Code.isRootPath, Config.isRootPath, go_simp]

/-- the per-byte test of `isCookieNameToken` as the Go source writes it -/
def badTokenByte (c : UInt8) : Bool :=
  decide (c ≤ 32) || decide (c ≥ 127) || decide (Go.indexByte (B "()<>@,;:\\\"/[]?={}") c ≥ 0)

theorem badTokenByte_spec (c : UInt8) :
    badTokenByte c = !(decide (32 < c.toNat) && decide (c.toNat < 127) && !(Config.cookieSeparators.contains c)) := by
  have h1 : decide (c ≤ 32) = !decide (32 < c.toNat) := by simp [UInt8.le_iff_toNat_le, ← Nat.not_lt]
  have h2 : decide (c ≥ 127) = !decide (c.toNat < 127) := by simp [UInt8.le_iff_toNat_le, ← Nat.not_lt]
  rw [badTokenByte, decide_indexByte_nonneg, h1, h2]
  -- the separators are the same literal on both sides; the rest is De Morgan
  change (_ || _ || Config.cookieSeparators.contains c) = _
  cases decide (32 < c.toNat) <;> cases decide (c.toNat < 127) <;> cases Config.cookieSeparators.contains c <;> rfl

theorem code_isCookieNameToken (env : Go.Env) (s : Str) :
    Code.isCookieNameToken env s = .ok (Config.isCookieNameToken s) := by
  unfold Code.isCookieNameToken Config.isCookieNameToken
  simp only [go_simp]
  -- no bad byte, that is: all bytes good
  have hbad : s.any badTokenByte = !s.all fun c =>
      decide (32 < c.toNat) && decide (c.toNat < 127) && !(Config.cookieSeparators.contains c) := by
    rw [List.any_eq_not_all_not]; simp only [badTokenByte_spec, Bool.not_not]
  unfold badTokenByte at hbad
  rw [forIn_index_loop, forIn_any, ok_bind, hbad]
  cases s.all _ <;> rfl

end AuthModel
