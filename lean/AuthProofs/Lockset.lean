import AuthModel.Lockset
set_option linter.unusedVariables false
namespace AuthModel
namespace Lockset

theorem wf_acq {tr : List Ev} (hwf : WF tr) {k t l : Nat} (h : tr[k]? = some (.acq t l)) : holders (tr.take k) l = none := by
  have := hwf k
  rwa [h] at this

theorem wf_rel {tr : List Ev} (hwf : WF tr) {k t l : Nat} (h : tr[k]? = some (.rel t l)) : holders (tr.take k) l = some t := by
  have := hwf k
  rwa [h] at this

theorem holders_take_succ (tr : List Ev) (k : Nat) :
    holders (tr.take (k + 1)) = tr[k]?.toList.foldl step (holders (tr.take k)) := by
  rw [List.take_add_one]; exact List.foldl_append

theorem holders_change {tr : List Ev} {L k : Nat} (h : holders (tr.take (k + 1)) L ≠ holders (tr.take k) L) :
    (∃ t, tr[k]? = some (.acq t L) ∧ holders (tr.take (k + 1)) L = some t) ∨
    (∃ t, tr[k]? = some (.rel t L) ∧ holders (tr.take (k + 1)) L = none) := by
  rw [holders_take_succ] at h ⊢
  generalize holders (tr.take k) = g at h ⊢
  generalize tr[k]? = o at h ⊢
  cases o with
  | none => exact absurd rfl h
  | some e =>
    cases e with
    | acq t l =>
      by_cases hl : L = l
      · subst hl; exact Or.inl ⟨t, rfl, if_pos rfl⟩
      · exact absurd (if_neg hl) h
    | rel t l =>
      by_cases hl : L = l
      · subst hl; exact Or.inr ⟨t, rfl, if_pos rfl⟩
      · exact absurd (if_neg hl) h
    | rd t x => exact absurd rfl h
    | wr t x => exact absurd rfl h

theorem last_switch {P : Nat → Prop} {i j : Nat} (hi : ¬P i) (hij : i ≤ j) (hP : P j) :
    ∃ m, i ≤ m ∧ m < j ∧ ¬P m ∧ ∀ p, m < p → p ≤ j → P p := by
  induction j with
  | zero => exact absurd (Nat.le_zero.mp hij ▸ hP) hi
  | succ j ih =>
    have hlt : i ≤ j := Nat.le_of_lt_succ (Nat.lt_of_le_of_ne hij fun he => hi (he ▸ hP))
    by_cases hj : P j
    · obtain ⟨m, him, hmj, hm, hall⟩ := ih hlt hj
      exact ⟨m, him, Nat.lt_succ_of_lt hmj, hm, fun p hp1 hp2 =>
        (Nat.le_or_eq_of_le_succ hp2).elim (hall p hp1) (· ▸ hP)⟩
    · exact ⟨j, hlt, Nat.lt_succ_self j, hj, fun p hp1 hp2 => Nat.le_antisymm hp2 hp1 ▸ hP⟩

/-- LAST ACQUIRE: if `b` holds `L` after the first `j` events, some earlier event is `b`'s acquire of `L` and `b` holds
    `L` at every point in between -/
theorem last_acquire {tr : List Ev} {L b j : Nat} (h : holders (tr.take j) L = some b) :
    ∃ m, m < j ∧ tr[m]? = some (.acq b L) ∧ ∀ p, m < p → p ≤ j → holders (tr.take p) L = some b := by
  obtain ⟨m, _, hmj, hm, hall⟩ :=
    last_switch (P := fun p => holders (tr.take p) L = some b) (i := 0) nofun (Nat.zero_le j) h
  have hm1 := hall (m + 1) (Nat.lt_succ_self m) hmj
  refine ⟨m, hmj, ?_, hall⟩
  rcases holders_change (by rw [hm1]; exact Ne.symm hm) with ⟨t, he, ht⟩ | ⟨t, _, ht⟩
  · rw [hm1] at ht; cases ht; exact he
  · rw [hm1] at ht; cases ht

/-- RELEASE IN BETWEEN: the last event of `[i, m)` before which `a` holds `L` can only be `a`'s release of it (only the
    holder may release, and an acquire is impossible while the lock is held) -/
theorem release_between {tr : List Ev} (hwf : WF tr) {L a i m : Nat} (him : i ≤ m) (hi : holders (tr.take i) L = some a)
    (hm : holders (tr.take m) L ≠ some a) : ∃ k, i ≤ k ∧ k < m ∧ tr[k]? = some (.rel a L) := by
  obtain ⟨k, hik, hkm, hk, hall⟩ := last_switch (P := fun p => holders (tr.take p) L ≠ some a) (fun h => h hi) him hm
  have hk : holders (tr.take k) L = some a := Decidable.not_not.mp hk
  refine ⟨k, hik, hkm, ?_⟩
  rcases holders_change (by rw [hk]; exact hall (k + 1) (Nat.lt_succ_self k) hkm) with ⟨t, he, _⟩ | ⟨t, he, _⟩
  · rw [wf_acq hwf he] at hk; cases hk
  · rw [wf_rel hwf he] at hk; cases hk; exact he

/-- LOCKSET SOUNDNESS. In a well-formed trace, two accesses at positions `i < j` by different threads that were both
    made while holding the SAME lock `L` are ordered by happens-before. Hence: if every access to a location is made
    under one common lock, no two conflicting accesses to it are concurrent - there is no data race on it.
    No bound on the number of threads, locks or events.
    `haj` is not used: the later event may be anything its thread does while holding `L`. -/
theorem lockset_sound (tr : List Ev) (hwf : WF tr) (L i j : Nat) (ei ej : Ev) (hij : i < j)
    (hi : tr[i]? = some ei) (hj : tr[j]? = some ej) (hai : ei.loc.isSome) (haj : ej.loc.isSome)
    (hgi : holders (tr.take i) L = some ei.tid) (hgj : holders (tr.take j) L = some ej.tid) :
    HB tr i j := by
  by_cases hsame : ei.tid = ej.tid
  · exact HB.po i j ei ej hi hj hij hsame
  · obtain ⟨m, hmj, hacq, hheld⟩ := last_acquire hgj
    -- i is not inside (m, j]: there the holder is ej.tid ≠ ei.tid
    have him : i ≤ m := Nat.le_of_not_lt fun h =>
      hsame (Option.some.inj (hgi.symm.trans (hheld i h (Nat.le_of_lt hij))))
    -- at m the lock is free, so ei's thread released it in [i, m)
    obtain ⟨k, hk1, hk2, hrel⟩ := release_between hwf him hgi (by rw [wf_acq hwf hacq]; nofun)
    -- k ≠ i because event i is an access, not a release
    have hki : i < k := by
      apply Nat.lt_of_le_of_ne hk1; intro h
      rw [← h, hi] at hrel
      rw [Option.some.inj hrel] at hai
      cases hai
    -- program order to the release, release to acquire, program order from the acquire
    have h1 : HB tr i k := HB.po i k ei (.rel ei.tid L) hi hrel hki rfl
    have h2 : HB tr k m := HB.sync k m ei.tid ej.tid L hrel hacq hk2
    have h3 : HB tr m j := HB.po m j (.acq ej.tid L) ej hacq hj hmj rfl
    exact HB.trans i k j h1 (HB.trans k m j h2 h3)

end Lockset
end AuthModel
