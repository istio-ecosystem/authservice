/-
  Statements about every path of an interaction tree (`Prog`): of every answer (`AllPaths`), of every action
  (`AllActs`), of both at once (`Inv`), and their transfer to the executable semantics (`traceOfRun`).
  In all of them the `Trace` argument is an accumulator, the history so far with the LATEST event first; the predicates
  receive its reverse, the history in the order in which it happened.
-/
import AuthModel.Oidc.Run
namespace AuthModel
open Oidc

abbrev Trace := List (Act × ARes)

/-- `P` holds of (trace, response) on EVERY path of the interaction tree, whatever the environment answers
    (any store content, any fault, any token-endpoint answer, any clock). -/
def AllPaths (P : Trace → Resp → Prop) : Prog → Trace → Prop
  | .ret r, tr => P tr.reverse r
  | .act a k, tr => ∀ res, AllPaths P (k res) ((a, res) :: tr)

/-- `Q prefix action` holds of EVERY action a check performs, given the actions and answers before it -/
def AllActs (Q : Trace → Act → Prop) : Prog → Trace → Prop
  | .ret _, _ => True
  | .act a k, tr => Q tr.reverse a ∧ ∀ res, AllActs Q (k res) ((a, res) :: tr)

/-- no path of the program answers OK -/
def NeverOK : Prog → Prop
  | .ret r => r.code ≠ cOK
  | .act _ k => ∀ res, NeverOK (k res)

/-- `AllActs Q` and `AllPaths P` in one induction over the tree -/
def Inv (Q : Trace → Act → Prop) (P : Trace → Resp → Prop) : Prog → Trace → Prop
  | .ret r, tr => P tr.reverse r
  | .act a k, tr => Q tr.reverse a ∧ ∀ res, Inv Q P (k res) ((a, res) :: tr)

variable {Q Q' : Trace → Act → Prop} {P P' : Trace → Resp → Prop} {p : Prog} {tr : Trace}

theorem Inv.mono (h : Inv Q P p tr) (hQ : ∀ t a, Q t a → Q' t a) (hP : ∀ t r, P t r → P' t r) : Inv Q' P' p tr := by
  induction p generalizing tr with
  | ret r => exact hP _ _ h
  | act a k ih => exact ⟨hQ _ _ h.1, fun res => ih res (h.2 res)⟩

theorem Inv.acts (h : Inv Q P p tr) (hQ : ∀ t a, Q t a → Q' t a) : AllActs Q' p tr := by
  induction p generalizing tr with
  | ret r => trivial
  | act a k ih => exact ⟨hQ _ _ h.1, fun res => ih res (h.2 res)⟩

theorem Inv.paths (h : Inv Q P p tr) (hP : ∀ t r, P t r → P' t r) : AllPaths P' p tr := by
  induction p generalizing tr with
  | ret r => exact hP _ _ h
  | act a k ih => exact fun res => ih res (h.2 res)

/-! One rule per shape of node that recurs in the handler: a guard, a store write that must be acknowledged, a clock read.
    In the last two every other answer ends the check with `r`, which has to be acceptable after any history. -/

theorem Inv.ite {c : Prop} [Decidable c] {p q : Prog} (hp : c → Inv Q P p tr) (hq : ¬c → Inv Q P q tr) :
    Inv Q P (if c then p else q) tr := by
  split
  · exact hp ‹_›
  · exact hq ‹_›

theorem Inv.done {a : Act} {k : Prog} {r : Resp} (ha : Q tr.reverse a) (hr : ∀ t, P t r)
    (hk : Inv Q P k ((a, .done true) :: tr)) :
    Inv Q P (.act a fun x => match x with | .done true => k | _ => .ret r) tr := by
  refine ⟨ha, fun res => ?_⟩
  dsimp only
  split
  · exact hk
  · exact hr _

theorem Inv.time {k : Int → Prog} {r : Resp} (ha : Q tr.reverse .now) (hr : ∀ t, P t r)
    (hk : ∀ now, Inv Q P (k now) ((.now, .time now) :: tr)) :
    Inv Q P (.act .now fun x => match x with | .time now => k now | _ => .ret r) tr := by
  refine ⟨ha, fun res => ?_⟩
  dsimp only
  split
  · exact hk _
  · exact hr _

theorem neverOK_iff_inv : NeverOK p ↔ Inv (fun _ _ => True) (fun _ r => r.code ≠ cOK) p tr := by
  induction p generalizing tr with
  | ret r => exact Iff.rfl
  | act a k ih => exact ⟨fun h => ⟨trivial, fun res => (ih res).1 (h res)⟩, fun h res => (ih res).2 (h.2 res)⟩

theorem allPaths_mono (hPP' : ∀ t r, P t r → P' t r) (h : AllPaths P p tr) : AllPaths P' p tr := by
  induction p generalizing tr with
  | ret r => exact hPP' _ _ h
  | act a k ih => exact fun res => ih res (h res)

/-- `runProg` (the executable sequential semantics of Oidc/Run.lean) keeping the answers as well: the trace of the run -/
def traceOfRun (w : StoreW) (now : Int) (sc : Script) : Prog → List Nat → Trace → StoreW × Resp × Trace
  | .ret r, _, tr => (w, r, tr.reverse)
  | .act a k, faults, tr =>
    let fault := if isStoreAct a then faults.headD 0 else 0
    let faults' := if isStoreAct a then faults.tail else faults
    let (w', res) := perform w now sc fault a
    traceOfRun w' now sc (k res) faults' ((a, res) :: tr)

/-- a run follows one path of the tree: whatever holds on all paths holds of it -/
theorem run_satisfies (w : StoreW) (now : Int) (sc : Script) (p : Prog) (faults : List Nat)
    (tr : Trace) (h : AllPaths P p tr) :
    P (traceOfRun w now sc p faults tr).2.2 (traceOfRun w now sc p faults tr).2.1 := by
  induction p generalizing w faults tr with
  | ret r => exact h
  | act a k ih => exact ih _ _ _ _ (h _)

theorem traceOfRun_eq_runProg (w : StoreW) (now : Int) (sc : Script) (p : Prog) (faults : List Nat) (tr : Trace) :
    ((traceOfRun w now sc p faults tr).1, (traceOfRun w now sc p faults tr).2.1,
      (traceOfRun w now sc p faults tr).2.2.map Prod.fst) = runProg w now sc p faults (tr.map Prod.fst) := by
  induction p generalizing w faults tr with
  | ret r => simp [traceOfRun, runProg]
  | act a k ih => exact ih _ _ _ _

end AuthModel
