import AuthModel.Tls
namespace AuthModel
namespace Tls

theorem watchFile_snd (st : State) (s : Key) : (watchFile st s).2 = st.files s.caFile := by
  unfold watchFile
  split
  · rename_i h; rw [h]
  · rename_i h; rw [h]; split <;> rfl

theorem watchFile_watchers (st : State) (s : Key) : ∃ new, (watchFile st s).1.watchers =
    st.watchers.map (fun w => if w.id = (s, s.caFile) then { w with alive := false } else w) ++ new := by
  unfold watchFile
  split
  · exact ⟨[], (List.append_nil _).symm⟩
  · split
    · exact ⟨[], (List.append_nil _).symm⟩
    · exact ⟨_, rfl⟩

theorem finish_snd (o : Oracle) (st : State) (k : Key) (ca : Str) (insecure : Bool) :
    (load.finish o st k ca insecure).2 =
      if ca ≠ [] then (if o.pemOk ca then .cfg { insecure := insecure, extra := some ca } else .error)
      else .cfg { insecure := insecure, extra := none } := by
  unfold load.finish
  split
  · split <;> rfl
  · rfl

theorem load_fresh {o : Oracle} {st : State} {s : Settings} (hnew : lookupPool st.pool (keyOf o s) = none) :
    (load o st s).2 =
      if s.caInline = [] ∧ s.caFile = [] ∧ s.skip = .unset then .noConfig
      else if s.caInline ≠ [] then (if o.pemOk s.caInline then .cfg { insecure := false, extra := some s.caInline } else .error)
      else if s.caFile ≠ [] then
        (match st.files s.caFile with
         | none => .error
         | some data => if data ≠ [] then (if o.pemOk data then .cfg { insecure := false, extra := some data } else .error)
                        else .cfg { insecure := false, extra := none })
      else .cfg { insecure := boolStr o s.skip, extra := none } := by
  unfold load
  simp only [hnew, apply_ite Prod.snd, finish_snd]
  -- the same three guards on both sides: branch by branch
  refine ite_congr rfl (fun _ => rfl) fun _ =>
    ite_congr rfl (fun h1 => if_pos h1) fun _ =>
    ite_congr rfl (fun _ => ?_) fun _ => rfl
  -- of what `WatchFile` returns only the content matters here
  have hr : (watchFile st (keyOf o s)).2 = st.files s.caFile := watchFile_snd st (keyOf o s)
  generalize watchFile st (keyOf o s) = w at hr ⊢
  obtain ⟨st', r⟩ := w
  subst hr
  cases st.files s.caFile with
  | none => rfl
  | some data => exact finish_snd ..

theorem insecure_iff {o : Oracle} {st : State} {s : Settings} {t : Trust} (hnew : lookupPool st.pool (keyOf o s) = none)
    (h : (load o st s).2 = .cfg t) : t.insecure = true ↔ s.caInline = [] ∧ s.caFile = [] ∧ boolStr o s.skip = true := by
  rw [load_fresh hnew] at h
  by_cases h0 : s.caInline = [] ∧ s.caFile = [] ∧ s.skip = .unset
  · rw [if_pos h0] at h; cases h
  rw [if_neg h0] at h
  by_cases h1 : s.caInline ≠ []
  · rw [if_pos h1] at h
    have hf : t.insecure = false := by
      split at h
      · cases h; rfl
      · cases h
    rw [hf]
    exact ⟨nofun, fun hc => absurd hc.1 h1⟩
  rw [if_neg h1] at h
  by_cases h2 : s.caFile ≠ []
  · rw [if_pos h2] at h
    have hf : t.insecure = false := by
      split at h
      · cases h
      · split at h
        · split at h
          · cases h; rfl
          · cases h
        · cases h; rfl
    rw [hf]
    exact ⟨nofun, fun hc => absurd hc.2.1 h2⟩
  · rw [if_neg h2] at h; cases h
    exact ⟨fun hb => ⟨Decidable.not_not.mp h1, Decidable.not_not.mp h2, hb⟩, fun hc => hc.2.2⟩

theorem pool_shares (o : Oracle) (st : State) (s : Settings) (t : Trust) (h : lookupPool st.pool (keyOf o s) = some t)
    (hne : ¬(s.caInline = [] ∧ s.caFile = [] ∧ s.skip = .unset)) :
    load o st s = (st, .cfg t) := by
  unfold load; simp only [if_neg hne, h]

theorem superseded_stops (st : State) (s : Key) (w : Watcher) (hw : w ∈ st.watchers) (hid : w.id = (s, s.caFile)) :
    ∃ w' ∈ (watchFile st s).1.watchers, w'.id = w.id ∧ w'.data = w.data ∧ w'.alive = false := by
  obtain ⟨new, hws⟩ := watchFile_watchers st s
  refine ⟨{ w with alive := false }, ?_, rfl, rfl, rfl⟩
  rw [hws]
  exact List.mem_append_left _ (List.mem_map.mpr ⟨w, hw, if_pos hid⟩)

theorem lookupPool_updateCA (o : Oracle) (pool : List (Key × Trust)) (s k : Key) (data : Str) :
    lookupPool (updateCA o pool s data) k =
      (lookupPool pool k).map fun t => if k = s ∧ o.pemOk data = true then { t with extra := some data } else t := by
  unfold updateCA
  split
  · rename_i hp
    unfold lookupPool
    induction pool with
    | nil => rfl
    | cons e es ih =>
      have hfst : (if e.1 = s then (e.1, { e.2 with extra := some data }) else e).1 = e.1 := by split <;> rfl
      simp only [List.map_cons, List.find?_cons, hfst]
      by_cases hk : e.1 = k
      · subst hk; by_cases hs : e.1 = s <;> simp [hs, hp]
      · simp only [hk, decide_false]; exact ih
  · simp [*]

end Tls
end AuthModel
