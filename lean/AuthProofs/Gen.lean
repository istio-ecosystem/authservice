import AuthModel.Gen
namespace AuthModel
namespace Gen

theorem draw_append {s : Str} {n : Nat} {o r : Str} (t : Str) (h : draw s n = some (o, r)) : draw (s ++ t) n = some (o, r ++ t) := by
  fun_induction draw s n generalizing o r with
  | case1 s => cases h; simp [draw]
  | case2 => cases h
  | case3 b s n hb ih =>
    obtain ⟨⟨o', r'⟩, hd, he⟩ := Option.map_eq_some_iff.mp h
    cases he
    simp [draw, hb, ih hd]
  | case4 b s n hb ih => simpa [draw, hb] using ih h

theorem genAll_eq (s : Str) : genAll s = (draw s 64).bind fun x => (publicPart x.2).map fun p =>
    { sid := x.1, nonce := p.1, state := p.2.1, verifierBytes := p.2.2.1, rest := p.2.2.2 } := by
  simp only [genAll, publicPart, Option.bind_eq_bind, Option.pure_def, Option.map_bind, Function.comp_def,
    apply_ite (Option.map _), Option.map_none, Option.map_some]

/-- the session id is a function of the segment of the stream it consumes; everything that is disclosed (nonce, state,
    verifier and hence the code challenge) is a function of the stream AFTER that segment -/
theorem genAll_split {seg sid : Str} (rest : Str) (h : draw seg 64 = some (sid, [])) :
    genAll (seg ++ rest) = (publicPart rest).map fun p =>
      { sid := sid, nonce := p.1, state := p.2.1, verifierBytes := p.2.2.1, rest := p.2.2.2 } := by
  rw [genAll_eq, draw_append _ h]; rfl

/-- INDEPENDENCE: for any stream and ANY other 64-character id producible from some segment, replacing the session id's
    segment yields that other id with exactly the same public values. An observer of nonce, state, verifier/challenge
    (and of the time, which is not an input at all) therefore learns nothing that distinguishes the two ids. -/
theorem sid_independent_of_public (seg seg' rest : Str) (sid sid' : Str)
    (h : draw seg 64 = some (sid, [])) (h' : draw seg' 64 = some (sid', [])) :
    (genAll (seg ++ rest)).map (fun i => (i.nonce, i.state, i.verifierBytes)) =
      (genAll (seg' ++ rest)).map (fun i => (i.nonce, i.state, i.verifierBytes)) ∧
    (genAll (seg ++ rest)).map (·.sid) = (publicPart rest).map (fun _ => sid) ∧
    (genAll (seg' ++ rest)).map (·.sid) = (publicPart rest).map (fun _ => sid') := by
  rw [genAll_split rest h, genAll_split rest h']
  cases publicPart rest <;> simp

theorem draw_uniform : ∀ v : Fin 62,
    ((List.range 256).filter fun b => decide (b < limit) && decide (b % 62 = v.val)).length = 4 := by
  intro ⟨v, hv⟩
  -- the accepted bytes that select `v` are `v`, `v + 62`, `v + 124`, `v + 186`: two duplicate-free lists with the same members
  have : ((List.range 256).filter fun b => decide (b < limit) && decide (b % 62 = v)).Perm
      [v, v + 62, v + 124, v + 186] :=
    (List.perm_ext_iff_of_nodup (List.nodup_range.sublist List.filter_sublist) (by simp)).mpr fun b => by
      simp; unfold limit; omega
  exact this.length_eq

end Gen
end AuthModel
