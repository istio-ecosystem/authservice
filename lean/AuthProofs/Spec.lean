/-
  The abstract session map (`AuthModel/Store/Types.lean`): `upd`, and what each operation does to what the two reads return.
-/
import AuthModel.Store.Types
namespace AuthModel

theorem upd_self {α} (m : Str → α) (id : Str) : upd m id (m id) = m := by
  funext k; unfold upd; split <;> simp [*]

theorem upd_upd {α} (m : Str → α) (k : Str) (v w : α) : upd (upd m k v) k w = upd m k w := by
  funext k'; unfold upd; split <;> rfl

namespace Spec

variable (m : SpecMap) (id sid : Str) (t : Tokens) (s : AuthState) (now : Int)

theorem clearAuth_eq : clearAuth m id = upd m id ((m id).map ({ · with auth := none })) := by
  unfold clearAuth
  cases h : m id with
  | none => exact (h ▸ upd_self m id : upd m id none = m).symm
  | some s => rfl

@[simp] theorem getTok_setTok : getTok (setTok m id t now) sid = if sid = id then some t else getTok m sid := by
  unfold getTok setTok upd
  split
  · cases m id <;> rfl
  · rfl

@[simp] theorem getTok_setAuth : getTok (setAuth m id s now) sid = getTok m sid := by
  unfold getTok setAuth upd
  split
  · subst sid; cases m id <;> rfl
  · rfl

@[simp] theorem getTok_clearAuth : getTok (clearAuth m id) sid = getTok m sid := by
  rw [clearAuth_eq]
  unfold getTok upd
  split
  · subst sid; cases m id <;> rfl
  · rfl

@[simp] theorem getTok_remove : getTok (remove m id) sid = if sid = id then none else getTok m sid := by
  unfold getTok remove upd
  split <;> rfl

@[simp] theorem getAuth_setAuth : getAuth (setAuth m id s now) sid = if sid = id then some s else getAuth m sid := by
  unfold getAuth setAuth upd
  split
  · cases m id <;> rfl
  · rfl

@[simp] theorem getAuth_setTok : getAuth (setTok m id t now) sid = getAuth m sid := by
  unfold getAuth setTok upd
  split
  · subst sid; cases m id <;> rfl
  · rfl

@[simp] theorem getAuth_clearAuth : getAuth (clearAuth m id) sid = if sid = id then none else getAuth m sid := by
  rw [clearAuth_eq]
  unfold getAuth upd
  split
  · cases m id <;> rfl
  · rfl

@[simp] theorem getAuth_remove : getAuth (remove m id) sid = if sid = id then none else getAuth m sid := by
  unfold getAuth remove upd
  split <;> rfl

end Spec
end AuthModel
