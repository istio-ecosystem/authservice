import AuthModel.Http
import AuthProofs.StrLemmas
namespace AuthModel
open Str

theorem takeWhile_takeWhile {α} (p q : α → Bool) (l : List α) :
    (l.takeWhile q).takeWhile p = l.takeWhile fun a => p a && q a := by
  induction l with
  | nil => rfl
  | cons a l ih => cases hq : q a <;> cases hp : p a <;> simp [hq, hp, ih]

theorem pathOf_eq_takeWhile (s : Str) : pathOf s = s.takeWhile (fun b => b ≠ 63 ∧ b ≠ 35) := by
  simp [pathOf, pqf, Str.cut_eq, takeWhile_takeWhile]

theorem pathOf_append_sep {p : Str} (r : Str) {x : UInt8} (hx : x = 63 ∨ x = 35)
    (hp : ∀ b ∈ p, b ≠ 63 ∧ b ≠ 35) : pathOf (p ++ x :: r) = p := by
  rw [pathOf_eq_takeWhile, List.takeWhile_append_of_pos fun b hb => decide_eq_true (hp b hb),
    List.takeWhile_cons_of_neg (by rcases hx with rfl | rfl <;> decide), List.append_nil]

theorem pathOf_of_clean {p : Str} (hp : ∀ b ∈ p, b ≠ 63 ∧ b ≠ 35) : pathOf p = p := by
  rw [pathOf_eq_takeWhile]
  simpa using List.takeWhile_append_of_pos (l₂ := []) fun b hb => decide_eq_true (hp b hb)

theorem pathOf_clean (s : Str) : ∀ b ∈ pathOf s, b ≠ 63 ∧ b ≠ 35 := by
  rw [pathOf_eq_takeWhile]
  exact fun b hb => of_decide_eq_true (List.all_eq_true.mp List.all_takeWhile b hb)

theorem goSlice_ok (s : Str) (lo hi : Nat) (h1 : lo ≤ hi) (h2 : hi ≤ s.length) :
    goSlice s lo hi = some ((s.take hi).drop lo) :=
  if_pos ⟨h1, h2⟩

/-- The index/slice formulation of `GetPathQueryFragment` (the Go source) never goes out of bounds and
    computes the `cut` formulation. -/
theorem pqfLit_eq (s : Str) : pqfLit s = some (pqf s) := by
  unfold pqfLit pqf
  simp only [Str.cut_eq_index]
  -- in each case the bounds of the slice expressions follow from `indexOf_lt`
  cases hh : indexOf 35 s with
  | none =>
    cases hi : indexOf 63 s with
    | none => rfl
    | some i =>
      have : i ≤ s.length ∧ i + 1 ≤ s.length := by have := Str.indexOf_lt hi; omega
      simp [goSlice_ok, this]
  | some h =>
    have hb : h ≤ s.length ∧ h + 1 ≤ s.length := by have := Str.indexOf_lt hh; omega
    simp only [goSlice_ok, hb, Nat.zero_le, Option.map, List.drop_zero]
    cases hi : indexOf 63 (s.take h) with
    | none => simp [goSlice_ok, hb]
    | some i =>
      have : i ≤ s.length ∧ i + 1 ≤ h ∧ i ≤ h := by
        have := Str.indexOf_lt hi; rw [List.length_take] at this; omega
      simp [goSlice_ok, hb, this, List.take_take]

end AuthModel
