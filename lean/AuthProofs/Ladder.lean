/-
  The ladder of `Process`: every action it performs and every answer it gives, each with what the history of the check
  before it must contain (`process_ladder`) - for token writes, token-endpoint requests and OK answers the exact sequence of
  actions and answers.
  The sequences contain the model's clock reads (`.now`): the model reads the clock before every token write, the Go code
  only when `expires_in > 0` (oidc.go:385, 469), and the differential run does not compare clock reads.
-/
import AuthProofs.Paths
-- off for the file because of the pattern variables of `WriteOK` that its right-hand sides do not mention
set_option linter.unusedVariables false
namespace AuthModel
open Oidc

/-- an ID token passed `isValidIDToken`: it parses, the nonce clause holds, the audience contains the client id,
    the key lookup succeeded and the signature verifies under the configured key set -/
def Validated (cfg : Cfg) (o : Oracles) (tok expected : Str) (required : Bool) : Prop :=
  ∃ a, o.attrs tok = some a ∧ nonceAccepted a expected required = true ∧ cfg.clientId ∈ a.aud ∧ o.sigOK tok = true

/-- an environment answer that reports a failure of the store, the token endpoint or the key source -/
def IsFailure : ARes → Prop
  | .done false => True
  | .tok .err => True
  | .auth .err => True
  | .idp (.body _) => False
  | .idp _ => True
  | .keys false => True
  | _ => False

/-- What justifies an OK answer for request `req`: the cookie names a session `sid`, the store returned tokens `t` for
    it during this check, and either `t` is unexpired at the clock reading of the check (fresh), or `t` carries a
    refresh token, the token endpoint answered this check's refresh request with a well-formed body, the merged
    tokens passed `isValidIDToken`, were stored successfully under `sid`, and are what is forwarded (refreshed). -/
def Justified (cfg : Cfg) (o : Oracles) (req : Req) (prev : Headers) (tr : Trace) (r : Resp) : Prop :=
  let sid := sessionIdFromCookie cfg req.cookie
  req.http = true ∧ sid ≠ [] ∧
  ∃ t a now, o.attrs t.idToken = some a ∧
    ( (tokensExpired cfg a t now = false ∧ r = allow cfg prev t ∧
        tr = [(Act.getTok sid, ARes.tok (.ok (some t))), (Act.now, ARes.time now)])
    ∨ (tokensExpired cfg a t now = true ∧ t.refreshToken ≠ [] ∧
        ∃ b now2 authAns,
          validRefreshResponse b = true ∧
          Validated cfg o (mergeTokens o t b now2).idToken (match authAns with | some x => x.nonce | none => []) false ∧
          r = allow cfg prev (mergeTokens o t b now2) ∧
          tr = [(Act.getTok sid, ARes.tok (.ok (some t))), (Act.now, ARes.time now),
                (Act.idp (.refresh cfg.tokenUri t.refreshToken cfg.clientId cfg.clientSecret), ARes.idp (.body b)),
                (Act.now, ARes.time now2), (Act.getAuth sid, ARes.auth (.ok authAns)), (Act.keys, ARes.keys true),
                (Act.setTok sid (mergeTokens o t b now2), ARes.done true)]) )

/-- a verdict is well formed: OK status with an OK body, any other status with a denied body -/
def WellFormed (r : Resp) : Prop :=
  (r.code = cOK ∧ ∃ h, r.http = .ok h) ∨ (r.code ≠ cOK ∧ ∃ d, r.http = .denied d)

/-- C04 / C11: the shape of every token-endpoint request, and what must have happened before it -/
def IdpReqOK (cfg : Cfg) (o : Oracles) (req : Req) (pre : Trace) : Act → Prop
  | .idp (.code uri code ru v cid cs) =>
      uri = cfg.tokenUri ∧ ru = cfg.callbackUri ∧ cid = cfg.clientId ∧ cs = cfg.clientSecret ∧
      matchesCallback cfg req = true ∧
      ∃ a, pre = [(Act.getAuth (sessionIdFromCookie cfg req.cookie), ARes.auth (.ok (some a)))] ∧ v = a.codeVerifier ∧
        valuesGet (parseQuery (queryOf req.path)).1 (B "state") = a.state ∧ a.state ≠ [] ∧
        code = valuesGet (parseQuery (queryOf req.path)).1 (B "code") ∧ code ≠ [] ∧ (parseQuery (queryOf req.path)).2 = true
  | .idp (.refresh uri rt cid cs) =>
      uri = cfg.tokenUri ∧ cid = cfg.clientId ∧ cs = cfg.clientSecret ∧
      ∃ t now, pre = [(Act.getTok (sessionIdFromCookie cfg req.cookie), ARes.tok (.ok (some t))), (Act.now, ARes.time now)] ∧
        rt = t.refreshToken ∧ rt ≠ [] ∧ ∃ a, o.attrs t.idToken = some a ∧ tokensExpired cfg a t now = true
  | _ => True

/-- Bool form of `Validated` -/
def validatedB (cfg : Cfg) (o : Oracles) (tok expected : Str) (required : Bool) : Bool :=
  match o.attrs tok with
  | none => false
  | some a => nonceAccepted a expected required && a.aud.contains cfg.clientId && o.sigOK tok

theorem validatedB_iff (cfg : Cfg) (o : Oracles) (tok en : Str) (nr : Bool) :
    validatedB cfg o tok en nr = true ↔ Validated cfg o tok en nr := by
  unfold validatedB Validated
  cases h : o.attrs tok with
  | none => simp
  | some a => simp [and_assoc]

/-- C02 / C05: what may be written to the session store, and when. Stated on the exact prefix of actions and answers
    that precedes the write (so it also fixes the ORDER of the ladder). -/
def WriteOK (cfg : Cfg) (o : Oracles) (req : Req) (pre : Trace) : Act → Prop
  | .setTok sid t =>
    sid = sessionIdFromCookie cfg req.cookie ∧ sid ≠ [] ∧
    match pre with
    | [(.getAuth s1, .auth (.ok (some a))), (.idp (.code uri code ru v cid cs), .idp (.body b)), (.keys, .keys true),
       (.clearAuth s2, .done true), (.now, .time now)] =>
        -- login: the ID token is the one of THIS check's token-endpoint answer, validated against the nonce stored
        -- for this very session; the login state was cleared first
        s1 = sid ∧ s2 = sid ∧ v = a.codeVerifier ∧ validNewResponse cfg b = true ∧
        validatedB cfg o b.idToken a.nonce true = true ∧
        t = { idToken := b.idToken, accessToken := b.accessToken, refreshToken := b.refreshToken,
              accessExp := accessExpiry now b.expiresIn }
    | [(.getTok s1, .tok (.ok (some old))), (.now, .time _), (.idp (.refresh uri rt cid cs), .idp (.body b)),
       (.now, .time now2), (.getAuth s2, .auth (.ok authAns)), (.keys, .keys true)] =>
        -- refresh: the merge of this check's answer over the stored tokens, validated
        s1 = sid ∧ s2 = sid ∧ rt = old.refreshToken ∧ validRefreshResponse b = true ∧
        validatedB cfg o (mergeTokens o old b now2).idToken (match authAns with | some x => x.nonce | none => []) false = true ∧
        t = mergeTokens o old b now2
    | _ => False
  | .setAuth sid a =>
    -- login state is only ever stored under the id the generator just produced, with the values it produced
    pre.reverse.head? = some (Act.gen, ARes.gen sid a.nonce a.state a.codeVerifier) ∧ a.requestedUrl = requestedUrl req
  | .clearAuth sid => sid = sessionIdFromCookie cfg req.cookie ∧ sid ≠ []
  | .removeSession sid => sid = sessionIdFromCookie cfg req.cookie ∧ sid ≠ []
  | _ => True

/-- tokens are written under `sid` only after the store returned login state (callback) or tokens (refresh) for `sid`
    in the same check -/
theorem WriteOK.setTok_read {cfg : Cfg} {o : Oracles} {req : Req} {pre : Trace} {sid : Str} {t : Tokens}
    (h : WriteOK cfg o req pre (.setTok sid t)) :
    (∃ a, (Act.getAuth sid, ARes.auth (.ok (some a))) ∈ pre) ∨ (∃ old, (Act.getTok sid, ARes.tok (.ok (some old))) ∈ pre) := by
  obtain ⟨_, _, hshape⟩ := h
  split at hshape
  · obtain ⟨rfl, _⟩ := hshape; exact .inl ⟨_, .head _⟩
  · obtain ⟨rfl, _⟩ := hshape; exact .inr ⟨_, .head _⟩
  · exact hshape.elim

/-- The closed list of answers `Process` can give, each with what the history of the check must contain. -/
inductive RespShape (cfg : Cfg) (o : Oracles) (req : Req) (prev : Headers) : Trace → Resp → Prop
  | denied (c : Nat) (hc : c = cInvalidArgument ∨ c = cInternal ∨ c = cUnknown) (tr : Trace) : RespShape cfg o req prev tr (deny c)
  | sessionError (tr : Trace) : RespShape cfg o req prev tr sessErr
  | expired (tr : Trace) : RespShape cfg o req prev tr expired400
  | ok (t : Tokens) (tr : Trace) : RespShape cfg o req prev tr (allow cfg prev t)
  | back (a : AuthState) (t : Tokens) (tr : Trace)
      (h1 : (Act.getAuth (sessionIdFromCookie cfg req.cookie), ARes.auth (.ok (some a))) ∈ tr)
      (h2 : (Act.clearAuth (sessionIdFromCookie cfg req.cookie), ARes.done true) ∈ tr)
      (h3 : (Act.setTok (sessionIdFromCookie cfg req.cookie) t, ARes.done true) ∈ tr) :
      RespShape cfg o req prev tr (found a.requestedUrl)
  | login (newSid nonce state verifier : Str) (tr : Trace)
      (h1 : (Act.gen, ARes.gen newSid nonce state verifier) ∈ tr)
      (h2 : (Act.setAuth newSid { state := state, nonce := nonce, requestedUrl := requestedUrl req, codeVerifier := verifier },
              ARes.done true) ∈ tr)
      (h3 : sessionIdFromCookie cfg req.cookie ≠ [] →
              (Act.removeSession (sessionIdFromCookie cfg req.cookie), ARes.done true) ∈ tr) :
      RespShape cfg o req prev tr
        (redirectWithCookie (authLocation cfg o state nonce verifier) (setCookie (cookieName cfg) newSid none))
  | logout (uri : Str) (tr : Trace) (h1 : matchesLogout cfg req = true)
      (h2 : cfg.logout = some (pathOf req.path, uri))
      (h3 : sessionIdFromCookie cfg req.cookie ≠ [] →
              (Act.removeSession (sessionIdFromCookie cfg req.cookie), ARes.done true) ∈ tr) :
      RespShape cfg o req prev tr (logoutResp cfg uri)

def ActOK (cfg : Cfg) (o : Oracles) (req : Req) (pre : Trace) (a : Act) : Prop :=
  WriteOK cfg o req pre a ∧ IdpReqOK cfg o req pre a

def AnsOK (cfg : Cfg) (o : Oracles) (req : Req) (prev : Headers) (tr : Trace) (r : Resp) : Prop :=
  RespShape cfg o req prev tr r ∧ (r.code = cOK → Justified cfg o req prev tr r)

theorem AnsOK.of_ne_ok {cfg : Cfg} {o : Oracles} {req : Req} {prev : Headers} {tr : Trace} {r : Resp}
    (h : RespShape cfg o req prev tr r) (hne : r.code ≠ cOK) : AnsOK cfg o req prev tr r :=
  ⟨h, fun hc => absurd hc hne⟩

/-- through `isValidIDToken`: its one action is the key lookup; the continuation runs only for a validated token, right
    after a successful lookup; every other outcome is `fail cInternal` or `fail cInvalidArgument` -/
theorem inv_validate {Q : Trace → Act → Prop} {P : Trace → Resp → Prop} {cfg : Cfg} {o : Oracles} {tok en : Str} {nr : Bool}
    {fail : Nat → Prog} {ok : Prog} {tr : Trace} (hk : Q tr.reverse .keys)
    (hf : ∀ c, c = cInvalidArgument ∨ c = cInternal → ∀ tr', Inv Q P (fail c) tr')
    (hok : validatedB cfg o tok en nr = true → Inv Q P ok ((.keys, .keys true) :: tr)) :
    Inv Q P (validateIdToken cfg o tok en nr fail ok) tr := by
  unfold validateIdToken
  cases ha : o.attrs tok with
  | none => exact hf _ (.inr rfl) _
  | some a =>
    refine .ite (fun _ => hf _ (.inl rfl) _) fun hn => ?_
    refine .ite (fun _ => hf _ (.inl rfl) _) fun haud => ⟨hk, fun res => ?_⟩
    cases res with
    | keys b =>
      cases b with
      | false => exact hf _ (.inr rfl) _
      | true => exact .ite (fun hs => hok (by simp_all [validatedB])) fun _ => hf _ (.inr rfl) _
    | _ => exact hf _ (.inr rfl) _

theorem unauthenticated_ne_ok : cUnauthenticated ≠ cOK := by decide

theorem deny_code_ne_ok {c : Nat} (hc : c = cInvalidArgument ∨ c = cInternal ∨ c = cUnknown) : c ≠ cOK := by
  rcases hc with rfl | rfl | rfl <;> decide

variable (cfg : Cfg) (o : Oracles) (req : Req) (prev : Headers)

/-- The two sub-programs that never answer OK are walked ONCE, for an arbitrary session id and under a condition `G`: no
    answer is OK whatever the id; under `G` - which the caller shows to imply that the id is the one the request presented -
    every action and answer is as the ladder says. `G := True` gives the ladder, `G := False` gives `NeverOK`. -/
def ActIf (G : Prop) (pre : Trace) (a : Act) : Prop := G → ActOK cfg o req pre a

def AnsIf (G : Prop) (tr : Trace) (r : Resp) : Prop := r.code ≠ cOK ∧ (G → RespShape cfg o req prev tr r)

variable {cfg o req prev} {G : Prop}

theorem ansIf_sessErr (tr : Trace) : AnsIf cfg o req prev G tr sessErr :=
  ⟨unauthenticated_ne_ok, fun _ => .sessionError tr⟩

theorem ansIf_deny {c : Nat} (hc : c = cInvalidArgument ∨ c = cInternal ∨ c = cUnknown) (tr : Trace) :
    AnsIf cfg o req prev G tr (deny c) :=
  ⟨deny_code_ne_ok hc, fun _ => .denied c hc tr⟩

theorem AnsIf.ansOK {tr : Trace} {r : Resp} (h : AnsIf cfg o req prev True tr r) : AnsOK cfg o req prev tr r :=
  .of_ne_ok (h.2 trivial) h.1

theorem ansOK_sessErr (tr : Trace) : AnsOK cfg o req prev tr sessErr := (ansIf_sessErr tr).ansOK

theorem ansOK_deny {c : Nat} (hc : c = cInvalidArgument ∨ c = cInternal ∨ c = cUnknown) (tr : Trace) :
    AnsOK cfg o req prev tr (deny c) :=
  (ansIf_deny hc tr).ansOK

theorem Inv.ladder {p : Prog} {tr : Trace} (h : Inv (ActIf cfg o req True) (AnsIf cfg o req prev True) p tr) :
    Inv (ActOK cfg o req) (AnsOK cfg o req prev) p tr :=
  h.mono (fun _ _ h => h trivial) fun _ _ => AnsIf.ansOK

theorem Inv.neverOK {p : Prog} {tr : Trace} (h : Inv (ActIf cfg o req False) (AnsIf cfg o req prev False) p tr) : NeverOK p :=
  neverOK_iff_inv.2 (h.mono (fun _ _ _ => trivial) fun _ _ h => h.1)

variable (cfg o req prev)

/-- the login redirect: RemoveSession for the presented id (if there is one), the generator, SetAuthorizationState under
    the generated id with the generated values, the 302 carrying that id -/
theorem ladder_redirectToIdp (G : Prop) (old : Str) (hG : G → old = sessionIdFromCookie cfg req.cookie) (tr : Trace) :
    Inv (ActIf cfg o req G) (AnsIf cfg o req prev G) (redirectToIdp cfg o req old) tr := by
  have after : ∀ tr', (G → sessionIdFromCookie cfg req.cookie ≠ [] →
        (Act.removeSession (sessionIdFromCookie cfg req.cookie), ARes.done true) ∈ tr') →
      Inv (ActIf cfg o req G) (AnsIf cfg o req prev G) (redirectAfterRemoval cfg o req) tr' := by
    intro tr' hrm
    refine ⟨fun _ => ⟨trivial, trivial⟩, fun gen => ?_⟩
    cases gen with
    | gen sid nonce state verifier =>
      refine .done (fun _ => ⟨by simp [WriteOK], trivial⟩) ansIf_sessErr ?_
      exact ⟨unauthenticated_ne_ok, fun hg =>
        .login sid nonce state verifier _ (by simp) (by simp) (fun h => by simp [hrm hg h])⟩
    | _ => exact ansIf_sessErr _
  unfold redirectToIdp
  refine .ite (fun hs => ?_) fun hs => after _ (fun hg h => absurd (hG hg ▸ h) hs)
  exact .done (fun hg => ⟨⟨hG hg, hs⟩, trivial⟩) ansIf_sessErr (after _ (fun hg _ => by simp [← hG hg]))

/-- the callback: the query is checked before anything is done; the login state stored for the presented id must carry
    the presented `state`; one code exchange; validation against the stored nonce; then the login state is cleared and the
    tokens are stored, in that order; the 302 leads to the URL stored with the login state -/
theorem ladder_retrieveTokens (G : Prop) (sid : Str)
    (hG : G → sid = sessionIdFromCookie cfg req.cookie ∧ sid ≠ [] ∧ matchesCallback cfg req = true) :
    Inv (ActIf cfg o req G) (AnsIf cfg o req prev G) (retrieveTokens cfg o req sid) [] := by
  unfold retrieveTokens
  generalize hpq : parseQuery (queryOf req.path) = pq
  simp only
  refine .ite (fun _ => ansIf_deny (.inl rfl) _) fun hq => ?_
  refine .ite (fun _ => ansIf_deny (.inl rfl) _) fun hne => ?_
  refine .ite (fun _ => ansIf_deny (.inl rfl) _) fun hsc => ?_
  subst hpq
  refine ⟨fun _ => ⟨trivial, trivial⟩, fun r => ?_⟩
  cases r with
  | auth ra =>
    cases ra with
    | err => exact ansIf_sessErr _
    | ok oa =>
      cases oa with
      | none => exact ⟨unauthenticated_ne_ok, fun _ => .expired _⟩
      | some a =>
        refine .ite (fun _ => ansIf_deny (.inl rfl) _) fun hst => ⟨fun hg => ⟨trivial, ?_⟩, fun ans => ?_⟩
        · -- the guards that did not fire, as `IdpReqOK` states them
          obtain ⟨rfl, _, hcb⟩ := hG hg
          have hq : (parseQuery (queryOf req.path)).2 = true := by simpa using hq
          have hst := Decidable.not_not.mp hst
          have hsc := not_or.mp hsc
          exact ⟨rfl, rfl, rfl, rfl, hcb, a, rfl, rfl, hst, hst ▸ hsc.1, rfl, hsc.2, hq⟩
        cases ans with
        | idp ia =>
          cases ia with
          | body b =>
            refine .ite (fun _ => ansIf_deny (.inl rfl) _) fun hv => ?_
            apply inv_validate
            · exact fun _ => ⟨trivial, trivial⟩
            · rintro c (rfl | rfl) tr'
              · exact ansIf_deny (.inl rfl) _
              · exact ansIf_deny (.inr (.inl rfl)) _
            · intro hval
              refine .done (fun hg => ⟨⟨(hG hg).1, (hG hg).2.1⟩, trivial⟩) ansIf_sessErr ?_
              refine .time (fun _ => ⟨trivial, trivial⟩) ansIf_sessErr fun now => ?_
              refine .done (fun hg => ⟨?_, trivial⟩) ansIf_sessErr ⟨unauthenticated_ne_ok, fun hg => ?_⟩
              · obtain ⟨rfl, hsid, _⟩ := hG hg
                simp at hv
                simp [WriteOK, hsid, hv, hval]
              · obtain ⟨rfl, _, _⟩ := hG hg
                exact .back a _ _ (by simp) (by simp) (List.mem_reverse.2 (.head _))
          | status n => exact ansIf_deny (.inr (.inr rfl)) _
          | _ => exact ansIf_deny (.inr (.inl rfl)) _
        | _ => exact ansIf_deny (.inr (.inl rfl)) _
  | _ => exact ansIf_sessErr _

/-- the refresh branch, entered after the store returned expired tokens `t` with a refresh token: one refresh exchange with
    THAT token; the merge is validated (against the nonce of a login state, if one is still stored); it is stored, and only
    then forwarded; every failure before the save ends the session through `redirectToIdp` -/
theorem ladder_refreshPath (hhttp : req.http = true) (hsid : sessionIdFromCookie cfg req.cookie ≠ []) (t : Tokens) (a : TokAttrs)
    (now : Int) (ha : o.attrs t.idToken = some a) (hexp : tokensExpired cfg a t now = true) (hrt : t.refreshToken ≠ []) :
    Inv (ActOK cfg o req) (AnsOK cfg o req prev) (refreshPath cfg o req prev (sessionIdFromCookie cfg req.cookie) t)
      [(.now, .time now), (.getTok (sessionIdFromCookie cfg req.cookie), .tok (.ok (some t)))] := by
  have hR := fun tr => (ladder_redirectToIdp cfg o req prev True _ (fun _ => rfl) tr).ladder
  unfold refreshPath
  refine ⟨⟨trivial, rfl, rfl, rfl, t, now, rfl, rfl, hrt, a, ha, hexp⟩, fun ans => ?_⟩
  cases ans with
  | idp ia =>
    cases ia with
    | body b =>
      refine .ite (fun _ => hR _) fun hv => ?_
      refine .time ⟨trivial, trivial⟩ ansOK_sessErr fun now2 => ⟨⟨trivial, trivial⟩, fun ra => ?_⟩
      cases ra with
      | auth raa =>
        cases raa with
        | err => exact hR _
        | ok authAns =>
          apply inv_validate
          · exact ⟨trivial, trivial⟩
          · exact fun _ _ _ => hR _
          · intro hval
            simp at hv
            refine .done ⟨?_, trivial⟩ ansOK_sessErr ?_
            · cases authAns <;> simpa [WriteOK, hsid, hv] using hval
            · exact ⟨.ok _ _, fun _ => ⟨hhttp, hsid, t, a, now, ha, .inr ⟨hexp, hrt, b, now2, authAns, hv,
                (validatedB_iff ..).mp hval, rfl, by simp⟩⟩⟩
      | _ => exact hR _
    | _ => exact hR _
  | _ => exact hR _

theorem process_ladder :
    Inv (ActOK cfg o req) (AnsOK cfg o req prev) (process cfg o req prev) [] := by
  have hR := fun tr => (ladder_redirectToIdp cfg o req prev True _ (fun _ => rfl) tr).ladder
  unfold process
  refine .ite (fun _ => ansOK_deny (.inl rfl) _) fun hhttp => ?_
  replace hhttp : req.http = true := by simpa using hhttp
  refine .ite (fun hlo => ?_) fun hlo => ?_
  · obtain ⟨uri, hu⟩ : ∃ uri, cfg.logout = some (pathOf req.path, uri) := by
      unfold matchesLogout at hlo
      cases hl : cfg.logout with
      | none => simp [hl] at hlo
      | some pu => simp [hl] at hlo; exact ⟨pu.2, by rw [hlo]⟩
    simp only [hu]
    refine .ite (fun hs => ?_) fun hs => .of_ne_ok (.logout uri _ hlo hu fun h => absurd h hs) unauthenticated_ne_ok
    exact .done ⟨⟨rfl, hs⟩, trivial⟩ ansOK_sessErr (.of_ne_ok (.logout uri _ hlo hu fun _ => by simp) unauthenticated_ne_ok)
  refine .ite (fun hsid => hsid ▸ hR _) fun hsid => ?_
  refine .ite (fun hcb => (ladder_retrieveTokens cfg o req prev True _ fun _ => ⟨rfl, hsid, hcb⟩).ladder) fun hcb => ?_
  -- an ordinary request with a session cookie
  refine ⟨⟨trivial, trivial⟩, fun r => ?_⟩
  cases r with
  | tok rt =>
    cases rt with
    | err => exact ansOK_sessErr _
    | ok ot =>
      cases ot with
      | none => exact hR _
      | some t =>
        simp only
        cases ha : o.attrs t.idToken with
        | none => exact ansOK_deny (.inr (.inl rfl)) _
        | some a =>
          refine .time ⟨trivial, trivial⟩ ansOK_sessErr fun now => ?_
          refine .ite (fun hexp => ?_) fun hexp => ?_
          · exact ⟨.ok _ _, fun _ => ⟨hhttp, hsid, t, a, now, ha, .inl ⟨by simpa using hexp, rfl, by simp⟩⟩⟩
          refine .ite (fun _ => hR _) fun hrt => ?_
          exact ladder_refreshPath cfg o req prev hhttp hsid t a now ha (by simpa using hexp) hrt
  | _ => exact ansOK_sessErr _

/-- C02 / C05: every store write of `Process` is justified by the exact history of the check before it -/
theorem process_writes : AllActs (WriteOK cfg o req) (process cfg o req prev) [] :=
  (process_ladder cfg o req prev).acts fun _ _ h => h.1

/-- every token-endpoint request of `Process` has the required form and the required history -/
theorem process_idp_requests : AllActs (IdpReqOK cfg o req) (process cfg o req prev) [] :=
  (process_ladder cfg o req prev).acts fun _ _ h => h.2

/-- C05 / C09 / C13 / C14: every answer of `Process` is one of the catalogued shapes with its required history -/
theorem process_shapes : AllPaths (RespShape cfg o req prev) (process cfg o req prev) [] :=
  (process_ladder cfg o req prev).paths fun _ _ h => h.1

/-- FAIL CLOSED, single check, any environment: on every path of `Process` an OK answer is justified. -/
theorem process_ok_justified :
    AllPaths (fun tr r => r.code = cOK → Justified cfg o req prev tr r) (process cfg o req prev) [] :=
  (process_ladder cfg o req prev).paths fun _ _ h => h.2

/-- an OK requires that the store returned tokens for the presented id during that very check -/
theorem process_ok_reads_tokens :
    AllPaths (fun tr r => r.code = cOK →
      ∃ t, (Act.getTok (sessionIdFromCookie cfg req.cookie), ARes.tok (.ok (some t))) ∈ tr) (process cfg o req prev) [] := by
  refine allPaths_mono (fun tr r h hc => ?_) (process_ok_justified cfg o req prev)
  obtain ⟨_, _, t, _, _, _, ⟨_, _, rfl⟩ | ⟨_, _, _, _, _, _, _, _, rfl⟩⟩ := h hc <;> exact ⟨t, by simp⟩

theorem neverOK_deny (c : Nat) (h : c ≠ cOK) : NeverOK (.ret (deny c)) := h

theorem neverOK_redirectToIdp (old : Str) : NeverOK (redirectToIdp cfg o req old) :=
  (ladder_redirectToIdp cfg o req [] False old nofun []).neverOK

theorem neverOK_retrieveTokens (sid : Str) : NeverOK (retrieveTokens cfg o req sid) :=
  (ladder_retrieveTokens cfg o req [] False sid nofun).neverOK

theorem mem_rev_cons {α} (x y : α) (l : List α) (h : x ∈ l.reverse) : x ∈ (y :: l).reverse := by
  simp at h ⊢; exact Or.inl h

theorem mem_rev_head {α} (x : α) (l : List α) : x ∈ (x :: l).reverse := by simp

end AuthModel
