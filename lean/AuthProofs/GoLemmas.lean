/-
  How translated code is run in proofs: the monad laws of `Go.M`, the shapes of `for` loop the translator produces, slices at an
  index, Go maps as association lists; what is only unfolded is collected in the simp set `go_simp`.
-/
import AuthProofs.GoSimpAttr
import AuthProofs.StrLemmas
import AuthModel.Pb
namespace AuthModel.Go
open AuthModel AuthModel.Str
variable {α β σ : Type}

@[go_simp] theorem ok_bind (a : α) (f : α → M β) : (Except.ok a >>= f) = f a := rfl
@[go_simp] theorem error_bind (e : String) (f : α → M β) : (Except.error e >>= f) = .error e := rfl
@[go_simp] theorem pure_eq_ok (a : α) : (pure a : M α) = .ok a := rfl
/-- not in `go_simp`: it would rewrite the loop bodies that `forIn_find` / `forIn_any` match on -/
theorem ite_ok (c : Prop) [Decidable c] (a b : α) :
    (if c then (.ok a : M α) else .ok b) = .ok (if c then a else b) := by split <;> rfl
/-- `b && x` and `b || x` where `x` can panic: the translator makes the short circuit explicit -/
@[go_simp] theorem and_then (b x : Bool) : (if b = true then (.ok x : M Bool) else .ok false) = .ok (b && x) := by
  cases b <;> rfl
@[go_simp] theorem or_else (b x : Bool) : (if b = true then (.ok true : M Bool) else .ok x) = .ok (b || x) := by
  cases b <;> rfl
/-- `if b { return true }; return false` -/
@[go_simp high] theorem ite_true_false (b : Bool) : (if b = true then (.ok true : M Bool) else .ok false) = .ok b := by
  cases b <;> rfl
@[go_simp] theorem B_empty : B "" = [] := rfl
@[go_simp] theorem len_beq_zero (l : List α) : (len l == 0) = l.isEmpty := by cases l <;> simp [len] <;> omega

/- Every partial selector of Pb.lean but `Handler.Process!`, `CheckResponse.Status!`, `Status.Code!`: `Check` and its
   specification call these three alike, and the proof of `code_check` cases on their results instead. -/
attribute [go_simp] if_true if_false Bool.false_eq_true Bool.not_true Bool.not_false
  derefNil Pb.nilPanic hasPrefix hasSuffix split1 toLower Map.entries Map.empty
  URL.Scheme! URL.EscapedPath! URL.Path! URL.Hostname! URL.Port! Time.IsZero! JwtToken.Expiration!
  Pb.StringMatch_Exact.Exact! Pb.StringMatch_Prefix.Prefix! Pb.StringMatch_Suffix.Suffix! Pb.StringMatch_Regex.Regex!
  Pb.Match.Header! Pb.OIDCConfig.IdToken! Pb.OIDCConfig.AccessToken! Pb.IdpTokensResponse.IDToken!
  Pb.IdpTokensResponse.AccessToken! Pb.IdpTokensResponse.RefreshToken! Pb.IdpTokensResponse.ExpiresIn!
  Pb.IdpTokensResponse.TokenType! Pb.TokenResponse.AccessTokenExpiresAt! Pb.TokenResponse.IDToken!
  Pb.TokenResponse.AccessToken! Pb.TokenResponse.RefreshToken! Pb.parseIDToken Pb.Session.added! Pb.Session.accessed!
  Pb.RedisToken.IDToken! Pb.RedisToken.AccessToken! Pb.RedisToken.AccessTokenExpiresAt! Pb.RedisToken.RefreshToken!
  Pb.RedisAuthState.State! Pb.RedisAuthState.Nonce! Pb.RedisAuthState.RequestedURL! Pb.RedisAuthState.CodeVerifier!
  Pb.MemoryStore.sessions! Pb.MemoryStore.absoluteSessionTimeout! Pb.MemoryStore.idleSessionTimeout! Pb.storeClockNow
  Pb.OidcHandler.config! Pb.clockNow Pb.DeniedHttpResponse.Headers! Pb.OkHttpResponse.Headers!
  Pb.Filter_Mock.Mock! Pb.Filter_Oidc.Oidc! Pb.Filter.Type_! Pb.FilterChain.Name!
  Pb.FilterChain.Match! Pb.FilterChain.Filters! Pb.Config.TriggerRules! Pb.Config.Chains!
  Pb.Config.AllowUnmatchedRequests! Pb.ExtAuthZFilter.cfg!

theorem decide_indexByte_nonneg (s : Str) (c : UInt8) : decide (indexByte s c ≥ 0) = s.contains c := by
  rw [indexByte, indexOf_eq_idxOf?, Bool.eq_iff_iff, List.contains_iff_mem, ← List.isSome_idxOf?]
  cases s.idxOf? c <;> simp

theorem index_singleton (s : Str) (c : UInt8) :
    index s [c] = match indexOf c s with | some n => (n : Int) | none => -1 := by
  rw [index, indexOfSub_single]; cases indexOf c s <;> rfl

/-- a slice expression with bounds in range: `s[lo:hi]` -/
theorem slice_ok (s : Str) (lo hi : Nat) (h1 : lo ≤ hi) (h2 : hi ≤ s.length) :
    slice s lo hi = .ok ((s.take hi).drop lo) := by
  have : (0 : Int) ≤ lo ∧ (lo : Int) ≤ hi ∧ (hi : Int) ≤ s.length := by omega
  simp [slice, this]

/-- the form the splitter writes: `s[i+1:j]` -/
theorem slice_succ_ok (s : Str) (i j : Nat) (h1 : i < j) (h2 : j ≤ s.length) :
    slice s (i + 1) j = .ok ((s.take j).drop (i + 1)) :=
  slice_ok s (i + 1) j h1 h2

theorem sliceTo_ok (s : Str) (j : Nat) (h : j ≤ s.length) : sliceTo s j = .ok (s.take j) := by
  simpa [sliceTo] using slice_ok s 0 j (Nat.zero_le _) h

theorem sliceFrom_succ_ok (s : Str) (i : Nat) (h : i < s.length) : sliceFrom s (i + 1) = .ok (s.drop (i + 1)) := by
  simpa [sliceFrom] using slice_ok s (i + 1) s.length h (Nat.le_refl _)

theorem Map.get_eq_find (m : Map) (k : Str) : m.get k = ((m.find? (·.1 == k)).map (·.2)).getD [] := by
  unfold Map.get; cases List.find? _ m <;> rfl

theorem Map.get_cons (a : Str × Str) (t : Map) (k : Str) :
    Map.get (a :: t) k = if a.1 == k then a.2 else Map.get t k := by
  cases h : a.1 == k <;> simp [Map.get, h]

theorem Map.get_set (m : Map) (k v k' : Str) : (m.set k v).get k' = if k == k' then v else m.get k' := by
  induction m with
  | nil => simp [Map.set, Map.get_cons]
  | cons a t ih =>
    by_cases h1 : a.1 = k
    · subst h1; by_cases h2 : a.1 = k' <;> simp [Map.set, Map.get_cons, h2]
    · by_cases h2 : k = k'
      · subst h2; simp [Map.set, Map.get_cons, h1, ih]
      · simp [Map.set, Map.get_cons, h1, h2, ih]

theorem MapOf.find?_delete {α : Type} (m : MapOf α) (id k : Str) :
    (MapOf.delete m id).find? (·.1 == k) = if k = id then none else m.find? (·.1 == k) := by
  rw [MapOf.delete, List.find?_filter]
  split
  · next h => subst h; exact List.find?_eq_none.mpr fun a _ => by simp
  · next h =>
    congr; funext a
    by_cases ha : a.1 = k <;> simp [ha, h]

/-- a loop without early exit.  The body has to be `.ok (.yield ..)` as it stands: where it runs partial operations,
    a lemma about one pass comes first (`decode_step`). -/
theorem forIn_fold (g : σ → α → σ) {body : α → σ → M (ForInStep σ)} (h : ∀ c s, body c s = .ok (.yield (g s c)))
    (cs : List α) (acc : σ) : forIn cs acc body = .ok (cs.foldl g acc) := by
  induction cs generalizing acc with
  | nil => rfl
  | cons c t ih => rw [List.forIn_cons, h, ok_bind]; exact ih _

/-- `for x in xs { if p x { return v x } }`.  `(none, ())` is the whole state of a loop that assigns no variable of
    the function around it; one that does (`Check`: `resp`, `err`) needs a relation of its own (`inner_rel`). -/
theorem forIn_find (xs : List α) (p : α → Bool) (v : α → β) :
    forIn (m := M) xs ((none, ()) : Option β × Unit) (fun x _ =>
        if p x = true then .ok (.done (some (v x), ())) else .ok (.yield (none, ())))
      = .ok ((xs.find? p).map v, ()) := by
  induction xs with
  | nil => rfl
  | cons a t ih => cases h : p a <;> simp [h, go_simp, ih]

/-- `for x in xs { if p x { return v } }` -/
theorem forIn_any (xs : List α) (p : α → Bool) (v : β) :
    forIn (m := M) xs ((none, ()) : Option β × Unit) (fun x _ =>
        if p x = true then .ok (.done (some v, ())) else .ok (.yield (none, ())))
      = .ok (if xs.any p then some v else none, ()) := by
  rw [forIn_find xs p fun _ => v]
  induction xs with
  | nil => rfl
  | cons a t ih => cases h : p a <;> simp_all

theorem strIdx_cons_zero (a : UInt8) (t : Str) : strIdx (a :: t) (Int.ofNat 0) = .ok a := by
  simp [strIdx]

theorem strIdx_cons_succ (a : UInt8) (t : Str) (k : Nat) : strIdx (a :: t) ((k : Int) + 1) = strIdx t (k : Int) := by
  have h : (0 : Int) ≤ k + 1 ∧ (0 : Int) ≤ k := by omega
  simp [strIdx, h]

/-- a counting loop that reads `s[i]` at every index is a loop over the bytes of `s` (and never indexes out of range).
    Induction on `s`: `range (n+1)` is `0` followed by the successors of `range n`, and `(a :: t)[k+1]` is `t[k]`. -/
theorem forIn_index_loop (s : Str) (st : σ) (g : UInt8 → σ → M (ForInStep σ)) :
    forIn (range (len s)) st (fun i r => strIdx s i >>= fun c => g c r) = forIn s st g := by
  simp only [range, len, Int.toNat_natCast]
  induction s generalizing st with
  | nil => rfl
  | cons a t ih =>
    have tl : ∀ b, forIn ((List.range t.length).map (Int.ofNat ∘ Nat.succ)) b (fun i r => strIdx (a :: t) i >>= fun c => g c r)
        = forIn t b g := by
      intro b
      rw [← ih, List.forIn_map, List.forIn_map]
      simp [strIdx_cons_succ]
    rw [List.length_cons, List.range_succ_eq_map, List.map_cons, List.map_map, List.forIn_cons, List.forIn_cons]
    simp only [strIdx_cons_zero, ok_bind, tl]

end AuthModel.Go
