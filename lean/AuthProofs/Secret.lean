import AuthModel.Secret
namespace AuthModel
namespace Secret

theorem setAt_eq_set (fs : List FilterS) (i : Nat) (v : FilterS) : setAt fs i v = fs.set i v := by
  induction fs generalizing i with
  | nil => rfl
  | cons f fs ih => cases i <;> simp [setAt, ih]

theorem foldl_setAt_get {targets : List Nat} {fs : List FilterS} {v : FilterS} {j : Nat} (hj : j < fs.length) :
    (targets.foldl (fun fs i => setAt fs i v) fs)[j]? = if j ∈ targets then some v else fs[j]? := by
  induction targets generalizing fs with
  | nil => simp
  | cons t ts ih =>
    rw [List.foldl_cons, ih (by rw [setAt_eq_set, List.length_set]; exact hj), setAt_eq_set, List.getElem?_set]
    by_cases hjt : t = j
    · subst hjt; simp [hj]
    · simp [hjt, Ne.symm hjt]

/-- the positions `reconcile` writes to are those indexed under the key -/
theorem mem_targets {idx : List (Str × Nat)} {key : Str} {j : Nat} :
    j ∈ (idx.filter (·.1 == key)).map (·.2) ↔ (key, j) ∈ idx := by
  simp only [List.mem_map, List.mem_filter, beq_iff_eq]
  constructor
  · rintro ⟨⟨k, j'⟩, ⟨hm, rfl⟩, rfl⟩; exact hm
  · intro h; exact ⟨(key, j), ⟨h, rfl⟩, rfl⟩

theorem reconcile_updates_exactly (st : State) (reqNs reqName v : Str) (hv : v ≠ []) (j : Nat) (hj : j < st.filters.length) :
    (reconcile st reqNs reqName (.data (some v))).filters[j]? =
      if (keyOf reqNs reqName, j) ∈ st.index then some (some (.literal v)) else st.filters[j]? := by
  simp only [← mem_targets, reconcile, hv, if_false]
  split
  · rename_i he; rw [List.isEmpty_iff.mp he]; rfl
  · exact foldl_setAt_get hj

theorem reconcile_ignores (st : State) (reqNs reqName : Str) (l : Lookup)
    (h : (∀ i, (keyOf reqNs reqName, i) ∉ st.index) ∨ l = .notFound ∨ l = .deleting ∨ l = .data none ∨ l = .data (some [])) :
    reconcile st reqNs reqName l = st := by
  unfold reconcile
  simp only
  split
  · rfl
  · rename_i hne
    rcases h with h | h | h | h | h
    · exact absurd (List.isEmpty_iff.mpr (List.eq_nil_iff_forall_not_mem.mpr fun j hj => h j (mem_targets.mp hj))) hne
    all_goals (subst h; rfl)

/-- also across the flip of the oneof from reference to literal: `reconcile` rewrites the filter, not the index -/
theorem reconcile_keeps_index (st : State) (reqNs reqName : Str) (l : Lookup) :
    (reconcile st reqNs reqName l).index = st.index ∧ (reconcile st reqNs reqName l).ns = st.ns := by
  unfold reconcile
  simp only
  -- every branch answers `st`, the last one with other filters
  repeat' split
  all_goals exact ⟨rfl, rfl⟩

theorem refuse_cross_namespace (ns : Str) (fs : List FilterS) (i : Nat)
    (h : ∃ rns name, some (Src.ref rns name) ∈ fs ∧ name ≠ [] ∧ rns ≠ [] ∧ rns ≠ ns) : loadSecrets ns fs i = none := by
  induction fs generalizing i with
  | nil => obtain ⟨_, _, hm, _⟩ := h; cases hm
  | cons f fs ih =>
    obtain ⟨rns, name, hm, hn, h1, h2⟩ := h
    unfold loadSecrets
    rcases List.mem_cons.mp hm with rfl | hm
    · simp [hn, h1, h2]
    · -- whatever the head is, the answer is that for the tail, at most with an entry put in front
      simp only [ih (i + 1) ⟨rns, name, hm, hn, h1, h2⟩, Option.map_none, ite_self]
      split <;> rfl

/-- positions count from `i`; the key is built from the CURRENT namespace, whatever the reference names -/
theorem index_sound {ns : Str} {fs : List FilterS} {i : Nat} {idx : List (Str × Nat)} (h : loadSecrets ns fs i = some idx)
    (k : Str) (j : Nat) :
    (k, j) ∈ idx ↔ ∃ rns name, (some (Src.ref rns name), j) ∈ fs.zipIdx i ∧ name ≠ [] ∧ k = keyOf ns name := by
  induction fs generalizing i idx with
  | nil => cases h; simp
  | cons f fs ih =>
    -- the head sits at position `i`, the tail counts from `i + 1`
    simp only [List.zipIdx_cons, List.mem_cons, Prod.mk.injEq, or_and_right, exists_or]
    unfold loadSecrets at h
    split at h
    · rename_i rns name
      split at h
      · rename_i hn
        rw [ih h, or_iff_right]
        rintro ⟨_, _, ⟨he, _⟩, hn', _⟩; cases he; exact hn' hn
      · split at h
        · cases h
        · rename_i hn _
          obtain ⟨idx', hl, rfl⟩ := Option.map_eq_some_iff.mp h
          rw [List.mem_cons, ih hl, Prod.mk.injEq]
          apply or_congr_left
          constructor
          · rintro ⟨rfl, rfl⟩; exact ⟨rns, name, ⟨rfl, rfl⟩, hn, rfl⟩
          · rintro ⟨_, _, ⟨he, rfl⟩, _, rfl⟩; cases he; exact ⟨rfl, rfl⟩
    · rename_i hf
      rw [ih h, or_iff_right]
      rintro ⟨rns, name, ⟨he, _⟩, _⟩; exact hf rns name he.symm

end Secret
end AuthModel
