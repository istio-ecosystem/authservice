/-
  ALL interleavings of ANY number of checks: a characterisation of every execution in which tokens are served for a
  session after its removal was acknowledged (logout finality, C09), and of every code exchange after the login state
  was consumed (C04).

  A global execution is a list of events (thread, action, answer) in the order in which the shared store performed
  them. Three things are ASSUMED of it (`Execution`), not proved - besides the two below, that no generator draws the
  session id in question (`fresh`):
    * per thread, the events are a prefix of a path of the handler's interaction tree (`IsRun`), so everything proved of
      every ACTION of `process` (`AllActs`, e.g. `process_writes`) holds of every thread under every schedule
      (`allActs_of_run`; a thread need not have answered, and nothing is transferred about answers);
    * the store answers like the abstract session map (`Reach`), which both stores refine (C12) - generously:
      sessions may also vanish at any moment (expiry), a failed write may or may not have been applied, a read may
      miss.
  No theorem connects these two assumptions with the executable interleaved semantics of Oidc/Sched.lean or with the
  store models; the kernel-evaluated example executions of C04 / C09 and the differential harness do.
-/
import AuthProofs.Ladder
import AuthProofs.Spec
namespace AuthModel
open Oidc

structure Ev where
  tid : Nat
  act : Act
  res : ARes

/-- the trace is a prefix of a path of the interaction tree (so a thread need not have finished) -/
def IsRun : Prog → Trace → Prop
  | _, [] => True
  | .ret _, _ :: _ => False
  | .act a k, (a', res) :: rest => a' = a ∧ IsRun (k res) rest

instance decIsRun : (p : Prog) → (evs : Trace) → Decidable (IsRun p evs)
  | .ret _, [] => isTrue (by simp [IsRun])
  | .act _ _, [] => isTrue (by simp [IsRun])
  | .ret _, _ :: _ => isFalse (by simp [IsRun])
  | .act a k, (a', res) :: rest =>
    if h : a' = a then
      match decIsRun (k res) rest with
      | isTrue h2 => isTrue (by simp only [IsRun]; exact ⟨h, h2⟩)
      | isFalse h2 => isFalse (by simp only [IsRun]; exact fun hh => h2 hh.2)
    else isFalse (by simp only [IsRun]; exact fun hh => h hh.1)

/-- whatever holds of every action of the tree holds of every action of a run, with the run's own prefix -/
theorem allActs_of_run {Q : Trace → Act → Prop} {pre : Trace} {p : Prog} {tr0 : Trace} {a : Act} {res : ARes} {post : Trace}
    (hA : AllActs Q p tr0) (hR : IsRun p (pre ++ (a, res) :: post)) : Q (tr0.reverse ++ pre) a := by
  induction pre generalizing p tr0 with
  | nil =>
    cases p with
    | ret r => exact hR.elim
    | act a' k => obtain ⟨rfl, _⟩ := hR; simpa using hA.1
  | cons x pre ih =>
    cases p with
    | ret r => exact hR.elim
    | act a' k => obtain ⟨rfl, hR'⟩ := hR; simpa using ih (hA.2 x.2) hR'

/-- sessions may vanish (expiry), nothing appears by itself -/
def Shrinks (m m' : SpecMap) : Prop := ∀ id, m' id = m id ∨ m' id = none

theorem Shrinks.refl (m : SpecMap) : Shrinks m m := fun _ => Or.inl rfl

/-- one action on the store: the answer given the map, and what the map may become -/
def StoreStep (m : SpecMap) (a : Act) (r : ARes) (m' : SpecMap) : Prop :=
  match a, r with
  | .getTok id, .tok (.ok x) => (x = none ∨ x = Spec.getTok m id) ∧ Shrinks m m'
  | .getAuth id, .auth (.ok x) => (x = none ∨ x = Spec.getAuth m id) ∧ Shrinks m m'
  | .setTok id t, .done true => ∃ now, Shrinks (Spec.setTok m id t now) m'
  | .setTok id t, _ => Shrinks m m' ∨ ∃ now, Shrinks (Spec.setTok m id t now) m'
  | .setAuth id s, .done true => ∃ now, Shrinks (Spec.setAuth m id s now) m'
  | .setAuth id s, _ => Shrinks m m' ∨ ∃ now, Shrinks (Spec.setAuth m id s now) m'
  | .clearAuth id, .done true => Shrinks (Spec.clearAuth m id) m'
  | .clearAuth id, _ => Shrinks m m' ∨ Shrinks (Spec.clearAuth m id) m'
  | .removeSession id, .done true => Shrinks (Spec.remove m id) m'
  | .removeSession id, _ => Shrinks m m' ∨ Shrinks (Spec.remove m id) m'
  | _, _ => Shrinks m m'

/-- the store performs the events in order, from map `m` to map `m'` -/
def Reach : SpecMap → List Ev → SpecMap → Prop
  | m, [], m' => m' = m
  | m, e :: es, m'' => ∃ m', StoreStep m e.act e.res m' ∧ Reach m' es m''

theorem reach_append (m m'' : SpecMap) (xs ys : List Ev) :
    Reach m (xs ++ ys) m'' ↔ ∃ m', Reach m xs m' ∧ Reach m' ys m'' := by
  induction xs generalizing m with
  | nil => simp [Reach]
  | cons e es ih =>
    simp only [List.cons_append, Reach, ih]
    exact ⟨fun ⟨m1, hs, m2, h1, h2⟩ => ⟨m2, ⟨m1, hs, h1⟩, h2⟩, fun ⟨m2, ⟨m1, hs, h1⟩, h2⟩ => ⟨m1, hs, m2, h1, h2⟩⟩

theorem reach_mid {m m'' : SpecMap} {xs ys : List Ev} {e : Ev} (h : Reach m (xs ++ e :: ys) m'') :
    ∃ m1 m2, Reach m xs m1 ∧ StoreStep m1 e.act e.res m2 ∧ Reach m2 ys m'' := by
  obtain ⟨m1, h1, m2, hs, h2⟩ := (reach_append ..).mp h
  exact ⟨m1, m2, h1, hs, h2⟩

def isSetTok (sid : Str) : Act → Bool
  | .setTok id _ => decide (id = sid)
  | _ => false

def isSetAuth (sid : Str) : Act → Bool
  | .setAuth id _ => decide (id = sid)
  | _ => false

theorem isSetTok_eq_true {sid : Str} {a : Act} (h : isSetTok sid a = true) : ∃ t, a = .setTok sid t := by
  cases a <;> simp [isSetTok] at h
  exact ⟨_, by rw [h]⟩

theorem isSetAuth_eq_true {sid : Str} {a : Act} (h : isSetAuth sid a = true) : ∃ s, a = .setAuth sid s := by
  cases a <;> simp [isSetAuth] at h
  exact ⟨_, by rw [h]⟩

/-- the map a store action leaves behind when it takes effect -/
def Effect (m : SpecMap) : Act → SpecMap → Prop
  | .setTok id t, m₁ => ∃ now, m₁ = Spec.setTok m id t now
  | .setAuth id s, m₁ => ∃ now, m₁ = Spec.setAuth m id s now
  | .clearAuth id, m₁ => m₁ = Spec.clearAuth m id
  | .removeSession id, m₁ => m₁ = Spec.remove m id
  | _, m₁ => m₁ = m

/-- whatever the answer: the action took effect or it did not, and then sessions may have gone -/
theorem StoreStep.effect {m m' : SpecMap} {a : Act} {r : ARes} (h : StoreStep m a r m') :
    ∃ m₁, (m₁ = m ∨ Effect m a m₁) ∧ Shrinks m₁ m' := by
  unfold StoreStep at h
  split at h
  · exact ⟨m, .inl rfl, h.2⟩
  · exact ⟨m, .inl rfl, h.2⟩
  · obtain ⟨now, hs⟩ := h; exact ⟨_, .inr ⟨now, rfl⟩, hs⟩
  · obtain hs | ⟨now, hs⟩ := h
    · exact ⟨m, .inl rfl, hs⟩
    · exact ⟨_, .inr ⟨now, rfl⟩, hs⟩
  · obtain ⟨now, hs⟩ := h; exact ⟨_, .inr ⟨now, rfl⟩, hs⟩
  · obtain hs | ⟨now, hs⟩ := h
    · exact ⟨m, .inl rfl, hs⟩
    · exact ⟨_, .inr ⟨now, rfl⟩, hs⟩
  · exact ⟨_, .inr rfl, h⟩
  · exact h.elim (fun hs => ⟨m, .inl rfl, hs⟩) fun hs => ⟨_, .inr rfl, hs⟩
  · exact ⟨_, .inr rfl, h⟩
  · exact h.elim (fun hs => ⟨m, .inl rfl, hs⟩) fun hs => ⟨_, .inr rfl, hs⟩
  · exact ⟨m, .inl rfl, h⟩

theorem StoreStep.getTok_some {m m' : SpecMap} {sid : Str} {t : Tokens}
    (h : StoreStep m (.getTok sid) (.tok (.ok (some t))) m') : Spec.getTok m sid = some t :=
  h.1.elim nofun Eq.symm

theorem StoreStep.getAuth_some {m m' : SpecMap} {sid : Str} {a : AuthState}
    (h : StoreStep m (.getAuth sid) (.auth (.ok (some a))) m') : Spec.getAuth m sid = some a :=
  h.1.elim nofun Eq.symm

/-! Nothing appears under `sid` by itself: tokens only through `SetTokenResponse(sid)`, login state only through
    `SetAuthorizationState(sid)`. Both in one argument: `get` is one of the two reads of `sid`, `w` recognises its writes. -/
section Appears
variable {α : Type} {get : SpecMap → Option α} {w : Act → Bool}
  (hshr : ∀ {m m'}, Shrinks m m' → get m = none → get m' = none)
  (heff : ∀ {m m₁ a}, Effect m a m₁ → w a = false → get m = none → get m₁ = none)
include hshr heff

theorem reach_keeps_none {es : List Ev} {m m' : SpecMap} (hr : Reach m es m') (h : get m = none)
    (hn : ∀ e ∈ es, w e.act = false) : get m' = none := by
  induction es generalizing m with
  | nil => exact hr ▸ h
  | cons e es ih =>
    obtain ⟨m1, hs, hr'⟩ := hr
    obtain ⟨m₁, h₁, hsh⟩ := hs.effect
    refine ih hr' (hshr hsh ?_) fun x hx => hn x (.tail _ hx)
    exact h₁.elim (· ▸ h) fun he => heff he (hn e (.head _)) h

/-- ... so if something is there at the end, there was a first write -/
theorem reach_first_write {es : List Ev} {m m' : SpecMap} (hr : Reach m es m') (h : get m = none) (h' : get m' ≠ none) :
    ∃ es1 e es2, es = es1 ++ e :: es2 ∧ w e.act = true ∧ ∀ x ∈ es1, w x.act = false := by
  cases hf : es.find? (w ·.act) with
  | none => exact absurd (reach_keeps_none hshr heff hr h (by simpa using hf)) h'
  | some e =>
    obtain ⟨he, es1, es2, rfl, h1⟩ := List.find?_eq_some_iff_append.mp hf
    exact ⟨es1, e, es2, rfl, he, by simpa using h1⟩

end Appears

theorem Shrinks.getTok_none {m m' : SpecMap} {sid : Str} (hs : Shrinks m m') (h : Spec.getTok m sid = none) :
    Spec.getTok m' sid = none := by
  unfold Spec.getTok at *
  rcases hs sid with e | e <;> rw [e]
  · exact h
  · rfl

theorem Shrinks.getAuth_none {m m' : SpecMap} {sid : Str} (hs : Shrinks m m') (h : Spec.getAuth m sid = none) :
    Spec.getAuth m' sid = none := by
  unfold Spec.getAuth at *
  rcases hs sid with e | e <;> rw [e]
  · exact h
  · rfl

theorem Effect.getTok_none {m m₁ : SpecMap} {sid : Str} {a : Act} (he : Effect m a m₁) (hn : isSetTok sid a = false)
    (h : Spec.getTok m sid = none) : Spec.getTok m₁ sid = none := by
  cases a with
  | setTok id t =>
    obtain ⟨now, rfl⟩ := he
    have : sid ≠ id := fun e => by simp [isSetTok, e] at hn
    simp [h, this]
  | setAuth id s => obtain ⟨now, rfl⟩ := he; simp [h]
  | clearAuth id | removeSession id => cases he; simp [h]
  | _ => cases he; exact h

theorem Effect.getAuth_none {m m₁ : SpecMap} {sid : Str} {a : Act} (he : Effect m a m₁) (hn : isSetAuth sid a = false)
    (h : Spec.getAuth m sid = none) : Spec.getAuth m₁ sid = none := by
  cases a with
  | setAuth id s =>
    obtain ⟨now, rfl⟩ := he
    have : sid ≠ id := fun e => by simp [isSetAuth, e] at hn
    simp [h, this]
  | setTok id t => obtain ⟨now, rfl⟩ := he; simp [h]
  | clearAuth id | removeSession id => cases he; simp [h]
  | _ => cases he; exact h

def threadTrace (tr : List Ev) (t : Nat) : Trace := (tr.filter fun e => e.tid = t).map fun e => (e.act, e.res)

theorem threadTrace_split (xs ys : List Ev) (e : Ev) :
    threadTrace (xs ++ e :: ys) e.tid = threadTrace xs e.tid ++ (e.act, e.res) :: threadTrace ys e.tid := by
  simp [threadTrace]

theorem mem_threadTrace {tr : List Ev} {t : Nat} {a : Act} {r : ARes} (h : (a, r) ∈ threadTrace tr t) :
    ∃ e ∈ tr, e.tid = t ∧ e.act = a ∧ e.res = r := by
  simp only [threadTrace, List.mem_map, List.mem_filter, decide_eq_true_eq, Prod.mk.injEq] at h
  obtain ⟨e, ⟨he, ht⟩, ha, hr⟩ := h
  exact ⟨e, he, ht, ha, hr⟩

def evsOf (tid : Nat) (l : List (Act × ARes)) : List Ev := l.map fun x => { tid := tid, act := x.1, res := x.2 }

/-- a read of `sid` that returned data -/
def isReadSome (sid : Str) (e : Ev) : Prop :=
  (∃ t, e.act = .getTok sid ∧ e.res = .tok (.ok (some t))) ∨ (∃ a, e.act = .getAuth sid ∧ e.res = .auth (.ok (some a)))

section Thread
variable {cfg : Cfg} {o : Oracles} {req : Req} {prev : Headers} {pre post : List Ev} {e : Ev}
  (hrun : IsRun (process cfg o req prev) (threadTrace (pre ++ e :: post) e.tid))
include hrun

theorem thread_act {Q : Trace → Act → Prop} (hA : AllActs Q (process cfg o req prev) []) : Q (threadTrace pre e.tid) e.act := by
  rw [threadTrace_split] at hrun
  simpa using allActs_of_run hA hrun

/-- every write of tokens under `sid` by a thread that runs the handler was preceded, in that thread, by a read of
    `sid` that returned tokens (refresh) or login state (callback) -/
theorem setTok_needs_read {sid : Str} {t : Tokens} (ha : e.act = .setTok sid t) :
    ∃ q ∈ pre, q.tid = e.tid ∧ isReadSome sid q := by
  have hw := thread_act hrun (process_writes cfg o req prev)
  rw [ha] at hw
  obtain ⟨a, h⟩ | ⟨old, h⟩ := hw.setTok_read <;> obtain ⟨q, hq, ht, hqa, hqr⟩ := mem_threadTrace h
  · exact ⟨q, hq, ht, .inr ⟨a, hqa, hqr⟩⟩
  · exact ⟨q, hq, ht, .inl ⟨old, hqa, hqr⟩⟩

/-- login state is written only under an id that a generator answer before it carried (in fact the thread's own draw, just
    before it: `WriteOK`; the weaker form is what `Execution.no_setAuth` needs) -/
theorem setAuth_needs_gen {sid : Str} {a : AuthState} (ha : e.act = .setAuth sid a) :
    ∃ q ∈ pre, q.act = .gen ∧ ∃ n s v, q.res = .gen sid n s v := by
  have hw := thread_act hrun (process_writes cfg o req prev)
  rw [ha] at hw
  obtain ⟨q, hq, _, hqa, hqr⟩ := mem_threadTrace (List.mem_reverse.mp (List.mem_of_mem_head? hw.1))
  exact ⟨q, hq, hqa, _, _, _, hqr⟩

/-- the code exchange of a callback was preceded, in that thread, by a read of the login state of the session named by
    its cookie, and the verifier it sends is the one of that state -/
theorem exchange_needs_state {uri code ru v cid cs : Str} (ha : e.act = .idp (.code uri code ru v cid cs)) :
    ∃ q ∈ pre, q.tid = e.tid ∧ ∃ a, q.act = .getAuth (sessionIdFromCookie cfg req.cookie) ∧ q.res = .auth (.ok (some a)) ∧
      v = a.codeVerifier := by
  have hw := thread_act hrun (process_idp_requests cfg o req prev)
  rw [ha] at hw
  obtain ⟨_, _, _, _, _, a, hpre, hv, _⟩ := hw
  obtain ⟨q, hq, ht, hqa, hqr⟩ := mem_threadTrace (a := .getAuth (sessionIdFromCookie cfg req.cookie))
    (r := .auth (.ok (some a))) (by rw [hpre]; simp)
  exact ⟨q, hq, ht, a, hqa, hqr, hv⟩

end Thread

section Executions
variable (cfg : Cfg) (o : Oracles) (reqOf : Nat → Req) (prevOf : Nat → Headers) (sid : Str)

/-- what is assumed of a global execution `tr`: every thread runs the handler; the store answers like the session map,
    from `m0` to `mEnd`; no generator draws `sid` ANYWHERE in `tr` (generated ids are fresh: C06) - so `sid` names a
    session that exists before the execution starts, not one whose login redirect lies inside it -/
structure Execution (tr : List Ev) (m0 mEnd : SpecMap) : Prop where
  runs : ∀ t, IsRun (process cfg o (reqOf t) (prevOf t)) (threadTrace tr t)
  store : Reach m0 tr mEnd
  fresh : ∀ e ∈ tr, e.act = .gen → ∀ n s v, e.res ≠ .gen sid n s v

variable {cfg o reqOf prevOf sid}

/-- ... then nobody writes login state under `sid`: it is written only under an id the thread's generator has just drawn -/
theorem Execution.no_setAuth {tr : List Ev} {m0 mEnd : SpecMap} (h : Execution cfg o reqOf prevOf sid tr m0 mEnd) :
    ∀ e ∈ tr, isSetAuth sid e.act = false := by
  intro e he
  cases hs : isSetAuth sid e.act with
  | false => rfl
  | true =>
    obtain ⟨st, hst⟩ := isSetAuth_eq_true hs
    obtain ⟨xs, ys, rfl⟩ := List.append_of_mem he
    obtain ⟨g, hg, hga, n, s, v, hgr⟩ := setAuth_needs_gen (h.runs e.tid) hst
    exact absurd hgr (h.fresh g (by simp [hg]) hga n s v)

/-- CHARACTERISATION OF EVERY LATE SERVING. Any number of threads, each running the handler, interleaved in any way on
    a store that answers like the session map. If the store acknowledged the removal of `sid` (event `eR`) and later
    returns tokens for `sid` (event `eB`), then between the two some thread `A` wrote tokens under `sid`, and that
    thread had read `sid` - tokens or login state - BEFORE the removal. There is no other way: a thread that starts
    reading after the removal finds nothing, and login state is only written under freshly generated ids. -/
theorem late_tokens_shape {m0 mEnd : SpecMap} {pre mid post : List Ev} {eR eB : Ev} {tB : Tokens}
    (h : Execution cfg o reqOf prevOf sid (pre ++ eR :: (mid ++ eB :: post)) m0 mEnd)
    (hR : eR.act = .removeSession sid ∧ eR.res = .done true)
    (hB : eB.act = .getTok sid ∧ eB.res = .tok (.ok (some tB))) :
    ∃ mid1 eP mid2 t, mid = mid1 ++ eP :: mid2 ∧ eP.act = .setTok sid t ∧
      (∀ e ∈ mid1, isSetTok sid e.act = false) ∧
      ∃ q ∈ pre, q.tid = eP.tid ∧ isReadSome sid q := by
  -- the store, cut at the removal and at the late read: nothing under sid after the one, tokens before the other
  obtain ⟨m1, m2, _, hrem, hstore⟩ := reach_mid h.store
  obtain ⟨m3, m4, hmid, hread, _⟩ := reach_mid hstore
  rw [hR.1, hR.2] at hrem
  rw [hB.1, hB.2] at hread
  have hnoT2 : Spec.getTok m2 sid = none := Shrinks.getTok_none hrem (by simp)
  have hnoA2 : Spec.getAuth m2 sid = none := Shrinks.getAuth_none hrem (by simp)
  -- hence some thread wrote tokens under sid in between; take the first such write
  obtain ⟨mid1, eP, mid2, rfl, hP, hfirst⟩ :=
    reach_first_write Shrinks.getTok_none Effect.getTok_none hmid hnoT2 (by rw [hread.getTok_some]; nofun)
  obtain ⟨t, hPa⟩ := isSetTok_eq_true hP
  refine ⟨mid1, eP, mid2, t, rfl, hPa, hfirst, ?_⟩
  -- that thread read sid before writing; the read cannot lie after the removal
  have hrunP := h.runs eP.tid
  rw [show pre ++ eR :: (mid1 ++ eP :: mid2 ++ eB :: post) = (pre ++ eR :: mid1) ++ eP :: (mid2 ++ eB :: post) by simp] at hrunP
  obtain ⟨q, hq, hqt, hqr⟩ := setTok_needs_read hrunP hPa
  simp only [List.mem_append, List.mem_cons] at hq
  rcases hq with hq | rfl | hq
  · exact ⟨q, hq, hqt, hqr⟩
  · rcases hqr with ⟨_, h, _⟩ | ⟨_, h, _⟩ <;> rw [hR.1] at h <;> cases h
  · -- a read after the removal and before the first write of tokens: the map held nothing under sid
    exfalso
    obtain ⟨a1, a2, rfl⟩ := List.append_of_mem hq
    rw [List.append_assoc, List.cons_append] at hmid
    obtain ⟨n1, n2, h1, hqstep, _⟩ := reach_mid hmid
    rcases hqr with ⟨tq, hqa, hqres⟩ | ⟨aq, hqa, hqres⟩ <;> rw [hqa, hqres] at hqstep
    · have := reach_keeps_none Shrinks.getTok_none Effect.getTok_none h1 hnoT2 fun e he => hfirst e (by simp [he])
      rw [hqstep.getTok_some] at this; cases this
    · have := reach_keeps_none Shrinks.getAuth_none Effect.getAuth_none h1 hnoA2 fun e he => h.no_setAuth e (by simp [he])
      rw [hqstep.getAuth_some] at this; cases this

/-- CONSUMPTION, FOR EVERY SCHEDULE. Once the store has acknowledged that the login state of `sid` was cleared (a callback
    does that after its exchange succeeded), the only callbacks that can still send a code to the token endpoint for
    `sid` are those that had ALREADY READ the login state before the clearing - the overlap window of concurrent callbacks.
    A callback that starts afterwards finds no state (nobody writes login state under an existing id) and makes no
    exchange: the state is single-use. -/
theorem exchange_after_consumption_shape {m0 mEnd : SpecMap} {pre mid post : List Ev} {eC eX : Ev} {uri code ru v cid cs : Str}
    (h : Execution cfg o reqOf prevOf sid (pre ++ eC :: (mid ++ eX :: post)) m0 mEnd)
    (hC : eC.act = .clearAuth sid ∧ eC.res = .done true)
    (hX : eX.act = .idp (.code uri code ru v cid cs)) (hsid : sessionIdFromCookie cfg (reqOf eX.tid).cookie = sid) :
    ∃ q ∈ pre, q.tid = eX.tid ∧ ∃ a, q.act = .getAuth sid ∧ q.res = .auth (.ok (some a)) := by
  have hrunX := h.runs eX.tid
  rw [show pre ++ eC :: (mid ++ eX :: post) = (pre ++ eC :: mid) ++ eX :: post by simp] at hrunX
  obtain ⟨q, hq, hqt, a, hqa, hqr, _⟩ := exchange_needs_state hrunX hX
  rw [hsid] at hqa
  simp only [List.mem_append, List.mem_cons] at hq
  rcases hq with hq | rfl | hq
  · exact ⟨q, hq, hqt, a, hqa, hqr⟩
  · rw [hC.1] at hqa; cases hqa
  · -- a read of the login state after the clearing: the map held none, and nobody wrote any
    exfalso
    obtain ⟨a1, a2, rfl⟩ := List.append_of_mem hq
    obtain ⟨m1, m2, _, hclr, hstore⟩ := reach_mid h.store
    rw [List.append_assoc, List.cons_append] at hstore
    obtain ⟨n1, n2, h1, hqstep, _⟩ := reach_mid hstore
    rw [hC.1, hC.2] at hclr
    rw [hqa, hqr] at hqstep
    have := reach_keeps_none Shrinks.getAuth_none Effect.getAuth_none h1 (Shrinks.getAuth_none hclr (by simp))
      fun e he => h.no_setAuth e (by simp [he])
    rw [hqstep.getAuth_some] at this; cases this

end Executions

/-- a canonical execution of the store (no expiry, successful writes applied, failed writes not): `none` if an answer
    in the trace is not the one the map gives. Used to exhibit executions that satisfy `Reach`. -/
def replayStep (m : SpecMap) (a : Act) (r : ARes) : Option SpecMap :=
  match a, r with
  | .getTok id, .tok (.ok x) => if x = Spec.getTok m id then some m else none
  | .getAuth id, .auth (.ok x) => if x = Spec.getAuth m id then some m else none
  | .setTok id t, .done true => some (Spec.setTok m id t 0)
  | .setAuth id s, .done true => some (Spec.setAuth m id s 0)
  | .clearAuth id, .done true => some (Spec.clearAuth m id)
  | .removeSession id, .done true => some (Spec.remove m id)
  | .setTok _ _, _ | .setAuth _ _, _ | .clearAuth _, _ | .removeSession _, _ => some m
  | _, _ => some m

theorem replayStep_sound {m m' : SpecMap} {a : Act} {r : ARes} (h : replayStep m a r = some m') : StoreStep m a r m' := by
  -- a read must give the map's answer; an acknowledged write is applied (at time 0); everything else leaves the map alone
  cases a with
  | getTok id =>
    cases r with
    | tok x =>
      cases x with
      | ok x => simp only [replayStep] at h; split at h <;> cases h; exact ⟨.inr ‹_›, .refl _⟩
      | err => cases h; exact .refl _
    | _ => cases h; exact .refl _
  | getAuth id =>
    cases r with
    | auth x =>
      cases x with
      | ok x => simp only [replayStep] at h; split at h <;> cases h; exact ⟨.inr ‹_›, .refl _⟩
      | err => cases h; exact .refl _
    | _ => cases h; exact .refl _
  | setTok id t | setAuth id s =>
    cases r with
    | done b =>
      cases b <;> cases h
      · exact .inl (.refl _)
      · exact ⟨0, .refl _⟩
    | _ => cases h; exact .inl (.refl _)
  | clearAuth id | removeSession id =>
    cases r with
    | done b =>
      cases b <;> cases h
      · exact .inl (.refl _)
      · exact .refl _
    | _ => cases h; exact .inl (.refl _)
  | _ => cases h; exact .refl _

/-- (`Login.lean` declares another `AuthModel.replay`, on checks: the two modules cannot be imported together.) -/
def replay : SpecMap → List Ev → Option SpecMap
  | m, [] => some m
  | m, e :: es => match replayStep m e.act e.res with
    | some m' => replay m' es
    | none => none

theorem replay_sound : ∀ (es : List Ev) (m m' : SpecMap), replay m es = some m' → Reach m es m' := by
  intro es
  induction es with
  | nil => intro m m' h; simp only [replay] at h; injection h with h; exact h.symm
  | cons e es ih =>
    intro m m' h
    simp only [replay] at h
    cases hs : replayStep m e.act e.res with
    | none => simp [hs] at h
    | some m1 =>
      simp only [hs] at h
      exact ⟨m1, replayStep_sound hs, ih m1 m' h⟩

theorem reach_of_replay {m : SpecMap} {es : List Ev} (h : (replay m es).isSome = true) : ∃ m', Reach m es m' :=
  have ⟨m', hm⟩ := Option.isSome_iff_exists.mp h
  ⟨m', replay_sound _ _ _ hm⟩

end AuthModel
