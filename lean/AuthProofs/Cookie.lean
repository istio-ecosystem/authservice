import AuthModel.Oidc.Handler
import AuthProofs.StrLemmas
namespace AuthModel
open Str Oidc

/-- visible ASCII other than `;` and `=`: the bytes of cookie names and of generated session ids -/
def tokByte (b : UInt8) : Bool := decide (33 ≤ b) && decide (b < 127) && b != 59 && b != 61

theorem tokByte_ascii {b : UInt8} (h : tokByte b = true) : b < 128 ∧ isSpace b = false := by
  -- token bytes lie in [33, 127), the white-space bytes in [9, 32]
  simp [tokByte, isSpace, UInt8.le_iff_toNat_le, UInt8.lt_iff_toNat_lt, ← UInt8.toNat_inj] at h ⊢
  omega

/-- every byte of a multi-byte white-space rune is at least `0x80` -/
theorem ascii_no_rune {a : UInt8} (h : a < 128) :
    (∀ b, isSpace2 a b = false ∧ isSpace2 b a = false) ∧ ∀ b c, isSpace3 a b c = false ∧ isSpace3 c b a = false := by
  have ne {k : UInt8} (hk : 128 ≤ k) : (a == k) = false ∧ ¬k ≤ a :=
    have : a < k := UInt8.lt_of_lt_of_le h hk
    ⟨beq_eq_false_iff_ne.mpr (UInt8.ne_of_lt this), UInt8.not_le.mpr this⟩
  simp [isSpace2, isSpace3, ne]

theorem trimLeft_ascii (a : UInt8) (s : Str) (h : a < 128 ∧ isSpace a = false) :
    trimLeft (a :: s) = a :: s ∧ trimLeftRev (a :: s) = a :: s := by
  have : spaceRuneLen (a :: s) = 0 ∧ spaceRuneLenRev (a :: s) = 0 := by
    -- the two functions look at up to three bytes from either end: the three shapes make their `match`es reduce
    match s with
    | [] | [_] | _ :: _ :: _ => simp [spaceRuneLen, spaceRuneLenRev, h.2, ascii_no_rune h.1]
  simp [trimLeft, trimLeftFuel, trimLeftRev, trimLeftRevFuel, this]

/-- `strings.TrimSpace` looks at the two ends only -/
theorem trimSpace_ascii (s : Str) (h : ∀ b ∈ s, b < 128 ∧ isSpace b = false) : trimSpace s = s := by
  have hl : trimLeft s = s := by
    cases s with
    | nil => rfl
    | cons a t => exact (trimLeft_ascii a t (h a List.mem_cons_self)).1
  have hr : trimLeftRev s.reverse = s.reverse := by
    cases e : s.reverse with
    | nil => rfl
    | cons l r => exact (trimLeft_ascii l r (h l (List.mem_reverse.mp (e ▸ List.mem_cons_self)))).2
  rw [trimSpace, hl, hr, List.reverse_reverse]

theorem trimSpace_tok (s : Str) (h : ∀ b ∈ s, tokByte b = true) : trimSpace s = s :=
  trimSpace_ascii s fun b hb => tokByte_ascii (h b hb)

/-- WHAT IS SET CAN BE READ BACK: a Cookie header consisting of the pair `name=value`, both made of token bytes,
    decodes to that pair -/
theorem decodeCookies_pair (name value : Str) (hn : ∀ b ∈ name, tokByte b = true) (hv : ∀ b ∈ value, tokByte b = true) :
    decodeCookies (name ++ [61] ++ value) = [(name, value)] := by
  have no (c : UInt8) (hc : tokByte c = false) : c ∉ name ∧ c ∉ value :=
    ⟨fun m => by simp [hn c m] at hc, fun m => by simp [hv c m] at hc⟩
  have h59 : (59 : UInt8) ∉ name ++ [61] ++ value := by simp [no 59 rfl]
  have htrim : trimSpace (name ++ [61] ++ value) = name ++ [61] ++ value := by
    refine trimSpace_ascii _ ?_
    simp only [List.forall_mem_append, List.forall_mem_singleton]
    exact ⟨⟨fun b hb => tokByte_ascii (hn b hb), by decide⟩, fun b hb => tokByte_ascii (hv b hb)⟩
  have hsplit : splitOn 61 (name ++ [61] ++ value) = [name, value] := by
    rw [List.append_assoc, List.singleton_append, splitOn_append_of_not_mem _ (no 61 rfl).1,
      splitOn_of_not_mem (no 61 rfl).2]
  rw [decodeCookies, splitOn_of_not_mem h59]
  simp only [List.filterMap_cons, List.filterMap_nil, htrim, hsplit]

theorem sessionId_roundtrip {cfg : Cfg} {sid : Str} (hname : ∀ b ∈ cookieName cfg, tokByte b = true)
    (hsid : ∀ b ∈ sid, tokByte b = true) :
    sessionIdFromCookie cfg (cookieName cfg ++ [61] ++ sid) = sid := by
  rw [sessionIdFromCookie, if_neg (by simp), decodeCookies_pair _ _ hname hsid]
  simp [lookupLast]

/-- the constant parts of the cookie name are token bytes; so is the whole name when the configured prefix is -/
theorem cookieName_tok {cfg : Cfg} (hp : ∀ b ∈ cfg.cookiePrefix, tokByte b = true) : ∀ b ∈ cookieName cfg, tokByte b = true := by
  have c : (∀ b ∈ cookiePrefixConst, tokByte b = true) ∧ (∀ b ∈ cookieSuffixConst, tokByte b = true) ∧
      ∀ b ∈ defaultCookieName, tokByte b = true := by
    rw [cookiePrefixConst, cookieSuffixConst, defaultCookieName, B_ofList, B_ofList, B_ofList]
    decide +kernel
  unfold cookieName
  split
  · simp only [List.forall_mem_append]
    exact ⟨⟨c.1, hp⟩, c.2.1⟩
  · exact c.2.2

end AuthModel
