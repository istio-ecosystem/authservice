import AuthModel.Oidc.Discovery
namespace AuthModel
namespace Discovery

theorem lookup_cons_self (c : Cache) (url : Str) (d : WellKnown) : lookup ((url, d) :: c) url = some d := by
  simp [lookup]

theorem patch_ok {c r : DCfg} {d : WellKnown} (h : patch c d = .ok r) :
    r.authUri = d.authorizationEndpoint ∧ r.tokenUri = d.tokenEndpoint ∧
    (∃ i s, r.jwks = .fetcher d.jwksUri i s) ∧ r.configurationUri = c.configurationUri ∧
    (c.logout = none → r.logout = none) ∧
    (∀ p u, c.logout = some (p, u) →
      (u ≠ [] → r.logout = some (p, u)) ∧
      (u = [] → d.endSessionEndpoint ≠ [] ∧ r.logout = some (p, d.endSessionEndpoint))) := by
  have hj : ∃ i s, (match c.jwks with
      | .fetcher _ i s => Jwks.fetcher d.jwksUri i s
      | _ => .fetcher d.jwksUri 0 false) = .fetcher d.jwksUri i s := by
    cases c.jwks <;> exact ⟨_, _, rfl⟩
  unfold patch at h
  rcases hl : c.logout with _ | ⟨p, u⟩ <;> simp only [hl] at h
  · cases h; exact ⟨rfl, rfl, hj, rfl, fun _ => rfl, nofun⟩
  · by_cases hu : u = []
    · rw [if_pos hu] at h
      by_cases he : d.endSessionEndpoint = []
      · rw [if_pos he] at h; cases h
      · rw [if_neg he] at h; cases h
        refine ⟨rfl, rfl, hj, rfl, nofun, fun _ _ hc => ?_⟩
        cases hc
        exact ⟨fun hne => absurd hu hne, fun _ => ⟨he, rfl⟩⟩
    · rw [if_neg hu] at h; cases h
      refine ⟨rfl, rfl, hj, rfl, nofun, fun _ _ hc => ?_⟩
      cases hc
      exact ⟨fun _ => rfl, fun he => absurd he hu⟩

/-- `patch` fails only for a logout without any redirect uri. The error carries no configuration: that
    `loadWellKnownConfig` has by then written the two endpoints and the JWKS URI into the shared `*OIDCConfig` (and
    leaves them there) is not modelled. -/
theorem patch_error (c : DCfg) (d : WellKnown) (e : DErr) (h : patch c d = .error e) :
    e = .missingLogoutRedirect ∧ d.endSessionEndpoint = [] ∧ ∃ p, c.logout = some (p, []) := by
  unfold patch at h
  rcases hl : c.logout with _ | ⟨p, u⟩ <;> simp only [hl] at h
  · cases h
  · by_cases hu : u = []
    · rw [if_pos hu] at h
      by_cases he : d.endSessionEndpoint = []
      · rw [if_pos he] at h; cases h; exact ⟨rfl, he, p, by rw [hu]⟩
      · rw [if_neg he] at h; cases h
    · rw [if_neg hu] at h; cases h

theorem no_discovery (cache : Cache) (c : DCfg) (ans : FetchAns) (hu : c.configurationUri = []) :
    load cache c ans = (cache, .ok c, false) := by
  rw [load, if_pos hu]

theorem load_cached (cache : Cache) (c : DCfg) (d : WellKnown) (ans : FetchAns) (hu : c.configurationUri ≠ [])
    (hc : lookup cache c.configurationUri = some d) : load cache c ans = (cache, patch c d, false) := by
  simp only [load, getWellKnown, if_neg hu, hc]

theorem load_fetched (cache : Cache) (c : DCfg) (d : WellKnown) (hu : c.configurationUri ≠ [])
    (hc : lookup cache c.configurationUri = none) :
    load cache c (.doc d) = ((c.configurationUri, d) :: cache, patch c d, true) := by
  simp only [load, getWellKnown, if_neg hu, hc]

/-- nothing is cached on failure, so the next check asks again -/
theorem failed_fetch (cache : Cache) (c : DCfg) (ans : FetchAns) (hu : c.configurationUri ≠ [])
    (hc : lookup cache c.configurationUri = none) (hd : ∀ d, ans ≠ .doc d) :
    load cache c ans = (cache, .error .fetch, true) := by
  cases ans with
  | doc d => exact absurd rfl (hd d)
  | _ => simp only [load, getWellKnown, if_neg hu, hc]

theorem cached_no_request (cache : Cache) (c : DCfg) (d : WellKnown) (ans ans' : FetchAns)
    (hc : lookup cache c.configurationUri = some d) :
    load cache c ans = load cache c ans' ∧ (load cache c ans).2.2 = false ∧ (load cache c ans).1 = cache := by
  by_cases hu : c.configurationUri = []
  · rw [no_discovery cache c ans hu, no_discovery cache c ans' hu]; exact ⟨rfl, rfl, rfl⟩
  · rw [load_cached cache c d ans hu hc, load_cached cache c d ans' hu hc]; exact ⟨rfl, rfl, rfl⟩

theorem load_ok {cache cache' : Cache} {c r : DCfg} {ans : FetchAns} {req : Bool}
    (hu : c.configurationUri ≠ []) (h : load cache c ans = (cache', .ok r, req)) :
    ∃ d, lookup cache' c.configurationUri = some d ∧ patch c d = .ok r ∧
      (lookup cache c.configurationUri = some d ∧ req = false ∧ cache' = cache ∨
       lookup cache c.configurationUri = none ∧ ans = .doc d ∧ req = true) := by
  cases hc : lookup cache c.configurationUri with
  | some d =>
    rw [load_cached cache c d ans hu hc, Prod.mk.injEq, Prod.mk.injEq] at h
    obtain ⟨rfl, hp, rfl⟩ := h
    exact ⟨d, hc, hp, Or.inl ⟨rfl, rfl, rfl⟩⟩
  | none =>
    cases ans with
    | doc d =>
      rw [load_fetched cache c d hu hc, Prod.mk.injEq, Prod.mk.injEq] at h
      obtain ⟨rfl, hp, rfl⟩ := h
      exact ⟨d, lookup_cons_self _ _ _, hp, Or.inr ⟨rfl, rfl, rfl⟩⟩
    | _ => rw [failed_fetch cache c _ hu hc (by intro _ hd; cases hd)] at h; cases h

end Discovery
end AuthModel
