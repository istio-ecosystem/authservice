/-
  Equivalence of the MECHANICALLY TRANSLATED Go functions (AuthModel/Generated/Code*.lean, regenerated from /repo
  on every run by tools/factgen/translate.go) with the hand-written model the property theorems are about.

  Each theorem has the form  `Code.f env args = .ok (model …)`: the translated function never panics
  (no slice out of range, no nil dereference, no index out of range) and computes the model's function.
  A change to the Go source changes the generated definition; if the behaviour changes, the proof below no longer
  checks and every property theorem that is transferred to the code through it is reported as unproved.
-/
import AuthModel.Generated.CodeAuthz
import AuthProofs.GoLemmas
import AuthModel.Chain
import AuthModel.Trigger
namespace AuthModel
open Str Go

theorem code_pqf (env : Go.Env) (s : Str) : Code.GetPathQueryFragment env s = .ok (pqf s) := by
  unfold Code.GetPathQueryFragment pqf
  -- every slice is taken at an index that `indexOf` found, so it is in range (`indexOf_lt`)
  have hhash : B "#" = [35] := by decide +kernel
  have hq : B "?" = [63] := by decide +kernel
  simp only [hhash, hq, Str.cut_eq_index, index_singleton]
  cases hh : indexOf 35 s with
  | none =>
    cases hi : indexOf 63 s with
    | none => simp [go_simp]
    | some i => simp [go_simp, sliceTo_ok s i (Nat.le_of_lt (indexOf_lt hi)), sliceFrom_succ_ok s i (indexOf_lt hi)]
  | some h =>
    have hlt := indexOf_lt hh
    simp only [sliceTo_ok s h (Nat.le_of_lt hlt), go_simp]
    cases hi : indexOf 63 (s.take h) with
    | none => simp [go_simp, sliceFrom_succ_ok s h hlt]
    | some i =>
      have hih : i < h := by have := indexOf_lt hi; simp at this; omega
      simp [go_simp, sliceTo_ok s i (by omega), slice_succ_ok s i h hih (Nat.le_of_lt hlt), sliceFrom_succ_ok s h hlt,
        List.take_take, Nat.min_eq_left (Nat.le_of_lt hih)]

def reOf (env : Go.Env) : ReOracle := fun pat s => (env.regexpMatchString pat s).1

def smOf (m : Pb.StringMatch) : StringMatch :=
  match m.GetMatchType with
  | .Exact v => .exact v.Exact
  | .Prefix v => .pfx v.Prefix
  | .Suffix v => .sfx v.Suffix
  | .Regex v => .regex v.Regex
  | .nil => .unset

theorem code_stringMatch (env : Go.Env) (m : Pb.StringMatch) (p : Str) :
    Code.stringMatch env m p = .ok (stringMatch (reOf env) (smOf m) p) := by
  unfold Code.stringMatch smOf
  cases h : m.GetMatchType <;> simp [go_simp, stringMatch, reOf, Go.Env.regexpMatch]

/-- `matchTriggerRule` answers false for a nil rule.  The model has no nil rule; a rule that excludes nothing and
    includes one matcher that is not set matches no path either. -/
def ruleOf (r : Pb.TriggerRule) : TriggerRule :=
  if r.isNil then { excluded := [], included := [.unset] }
  else { excluded := r.ExcludedPaths.map smOf, included := r.IncludedPaths.map smOf }

theorem code_matchTriggerRule (env : Go.Env) (r : Pb.TriggerRule) (p : Str) :
    Code.matchTriggerRule env r p = .ok (matchTriggerRule (reOf env) (ruleOf r) p) := by
  unfold Code.matchTriggerRule ruleOf matchTriggerRule
  cases hn : r.isNil
  · -- the two loops are `any`; what is left is the same decision on three booleans
    simp only [go_simp, code_stringMatch, forIn_any, Pb.TriggerRule.GetExcludedPaths, Pb.TriggerRule.GetIncludedPaths, hn,
      List.any_map, List.isEmpty_map, Function.comp_def]
    cases r.ExcludedPaths.any _ <;> cases r.IncludedPaths.isEmpty <;> cases r.IncludedPaths.any _ <;> rfl
  · simp [go_simp, stringMatch]

def httpOf (req : Pb.CheckRequest) : Pb.AttributeContext_HttpRequest := req.GetAttributes.GetRequest.GetHttp

theorem code_mustTriggerCheck (env : Go.Env) (rules : List Pb.TriggerRule) (req : Pb.CheckRequest) :
    Code.mustTriggerCheck env rules req = .ok (mustTrigger (reOf env) (rules.map ruleOf) (httpOf req).GetPath) := by
  unfold Code.mustTriggerCheck mustTrigger pathOf httpOf
  simp only [go_simp, code_pqf, code_matchTriggerRule, forIn_any, List.any_map, List.isEmpty_map, Function.comp_def]
  cases rules.isEmpty <;> cases (pqf _).1.isEmpty <;> cases rules.any _ <;> rfl

/-- the chain criterion of the model that a protobuf `Match` pointer stands for -/
def matchOf (m : Pb.Match) : Option Match :=
  if m.isNil then none else some { header := m.Header, equality := m.GetEquality, pfx := m.GetPrefix }

theorem mapGet_eq_headerValue (m : Go.Map) (k : Str) : Go.Map.get m k = headerValue m k := rfl

theorem code_matches (env : Go.Env) (m : Pb.Match) (req : Pb.CheckRequest) :
    Code.matches_ env m req = .ok (chainMatches (matchOf m) (httpOf req).GetHeaders) := by
  unfold Code.matches_ matchOf chainMatches httpOf
  cases hn : m.isNil <;> simp [go_simp, hn, mapGet_eq_headerValue, ite_ok]

end AuthModel
