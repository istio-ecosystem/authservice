/-
  `memoryStore.live` of internal/oidc/memory.go, as translated from the source (Generated/CodeStore.lean), against
  `MemStore.live` of the store model (AuthModel/Store/Memory.lean): the one place where the in-memory store decides
  whether a session is still inside its absolute and idle timeouts (every Get/Set/Clear goes through it).

  The Go map of session pointers is read as a value (`Go.MapOf Session`): `live` itself only looks a session up, reads
  its two timestamps and deletes the entry; it never writes through the pointer it returns.  What its CALLERS do with
  that pointer (`set`, the getters: update `accessed`, store tokens) is the hand-written model tied by the differential
  run, not this file.

  At the end, the two record conversions of internal/oidc/redis.go (`redisToken.TokenResponse()`,
  `redisAuthState.AuthorizationState()`) against `Redis.tokensOf` / `Redis.authOf`.
-/
import AuthModel.Generated.CodeStore
import AuthModel.Store.Memory
import AuthModel.Store.Redis
import AuthProofs.GoLemmas
namespace AuthModel.CodeEquiv
open AuthModel AuthModel.Str AuthModel.Go

def tokensOf (t : Pb.TokenResponse) : Option Tokens :=
  if t.isNil then none
  else some { idToken := t.IDToken, accessToken := t.AccessToken, refreshToken := t.RefreshToken,
              accessExp := t.AccessTokenExpiresAt.unixNano }

def authOf (a : Pb.AuthorizationState) : Option AuthState :=
  if a.isNil then none
  else some { state := a.State, nonce := a.Nonce, requestedUrl := a.RequestedURL, codeVerifier := a.CodeVerifier }

/-- the model's session record for a `*session`; a zero `time.Time` (never stored: `newSession(clock.Now())`) reads as 0 -/
def sessOf (s : Pb.Session) : MSess :=
  { tokens := tokensOf s.tokenResponse, auth := authOf s.authorizationState,
    added := s.added.unixNano.getD 0, accessed := s.accessed.unixNano.getD 0 }

/-- what a `*session` returned by the code stands for: nil is "absent" -/
def sessOpt (s : Pb.Session) : Option MSess := if s.isNil then none else some (sessOf s)

/-- the model store a `*memoryStore` stands for -/
def storeOf (m : Pb.MemoryStore) : MemStore :=
  { abs := m.absoluteSessionTimeout, idle := m.idleSessionTimeout,
    sessions := fun id => match m.sessions.find? (·.1 == id) with
      | some kv => some (sessOf kv.2)
      | none => none }

/-- `t.Add(d).Before(u)` for two clock readings -/
theorem before_add {t u : Go.Time} {a now : Int} (ht : t.unixNano = some a) (hu : u.unixNano = some now) (d : Int) :
    Go.Time.before (Go.Time.add t d) u = decide (a + d < now) := by
  simp [Go.Time.before, Go.Time.add, ht, hu]

/-- what the store's own code maintains: no nil pointers in the map, and every session carries the clock readings it
    was created and last accessed at (`newSession(m.clock.Now())`, `s.accessed = m.clock.Now()`) -/
def StoreWF (m : Pb.MemoryStore) : Prop :=
  m.isNil = false ∧ ∀ kv ∈ m.sessions, kv.2.isNil = false ∧ kv.2.added.unixNano.isSome ∧ kv.2.accessed.unixNano.isSome

theorem storeOf_delete (m : Pb.MemoryStore) (id k : Str) :
    (storeOf { m with sessions := Go.MapOf.delete m.sessions id }).sessions k = upd (storeOf m).sessions id none k := by
  by_cases hk : k = id <;> simp [storeOf, MapOf.find?_delete, upd, hk]

theorem code_live_eq (env : Go.Env) (m : Pb.MemoryStore) (id : Str) (now : Int)
    (hwf : StoreWF m) (hnow : env.now.unixNano = some now) :
    Code.live env m id = .ok (match m.sessions.find? (·.1 == id) with
      | none => ({ isNil := true }, m)
      | some kv =>
        if (storeOf m).expired now (sessOf kv.2) then
          ({ isNil := true }, { m with sessions := Go.MapOf.delete m.sessions id })
        else (kv.2, m)) := by
  obtain ⟨hm, hs⟩ := hwf
  unfold Code.live
  simp only [Pb.MemoryStore.sessions!, hm, ok_bind, pure_eq_ok, if_false, Bool.false_eq_true, Go.MapOf.get]
  cases hf : m.sessions.find? (·.1 == id) with
  | none => rfl
  | some kv =>
    obtain ⟨h1, h2, h3⟩ := hs kv (List.mem_of_find?_eq_some hf)
    obtain ⟨a, ha⟩ := Option.isSome_iff_exists.mp h2
    obtain ⟨c, hc⟩ := Option.isSome_iff_exists.mp h3
    simp only [h1, hm, go_simp, before_add ha hnow, before_add hc hnow, ha, hc, sessOf]
    exact ite_ok ..

/-- THE CODE's `live` is the model's `live`: same answer (absent / the session), same store afterwards (an expired
    session is deleted, nothing else changes), no panic, and the store stays well-formed -/
theorem code_live (env : Go.Env) (m : Pb.MemoryStore) (id : Str) (now : Int)
    (hwf : StoreWF m) (hnow : env.now.unixNano = some now) :
    ∃ s m', Code.live env m id = .ok (s, m') ∧
      sessOpt s = ((storeOf m).live now id).2 ∧
      (storeOf m').abs = (storeOf m).abs ∧ (storeOf m').idle = (storeOf m).idle ∧
      (∀ k, (storeOf m').sessions k = ((storeOf m).live now id).1.sessions k) ∧
      StoreWF m' := by
  rw [code_live_eq env m id now hwf hnow]
  -- the model's `live` looks at the same entry and takes the same decision
  have hl : (storeOf m).live now id = match m.sessions.find? (·.1 == id) with
      | none => (storeOf m, none)
      | some kv => if (storeOf m).expired now (sessOf kv.2) then
          ({ storeOf m with sessions := upd (storeOf m).sessions id none }, none) else (storeOf m, some (sessOf kv.2)) := by
    simp only [MemStore.live, storeOf]; cases m.sessions.find? (·.1 == id) <;> rfl
  rw [hl]
  cases hf : m.sessions.find? (·.1 == id) with
  | none => exact ⟨_, _, rfl, rfl, rfl, rfl, fun _ => rfl, hwf⟩
  | some kv =>
    cases hx : (storeOf m).expired now (sessOf kv.2) <;> simp only [hx, if_true, if_false, Bool.false_eq_true]
    · exact ⟨_, _, rfl, by simp [sessOpt, (hwf.2 kv (List.mem_of_find?_eq_some hf)).1], rfl, rfl, fun _ => rfl, hwf⟩
    · exact ⟨_, _, rfl, rfl, rfl, rfl, storeOf_delete m id, hwf.1, fun kv' h => hwf.2 kv' (List.mem_filter.mp h).1⟩

theorem code_live_expired (env : Go.Env) (m : Pb.MemoryStore) (id : Str) (now : Int)
    (hwf : StoreWF m) (hnow : env.now.unixNano = some now) (s : MSess)
    (hs : (storeOf m).sessions id = some s) (hex : (storeOf m).expired now s = true) :
    ∃ r m', Code.live env m id = .ok (r, m') ∧ r.isNil = true ∧ (storeOf m').sessions id = none := by
  obtain ⟨r, m', h1, h2, _, _, h5, _⟩ := code_live env m id now hwf hnow
  have hl : (storeOf m).live now id = ({ storeOf m with sessions := upd (storeOf m).sessions id none }, none) := by
    simp [MemStore.live, hs, hex]
  refine ⟨r, m', h1, ?_, ?_⟩
  · rw [hl] at h2
    unfold sessOpt at h2
    cases hr : r.isNil <;> simp_all
  · rw [h5 id, hl]; simp [upd]

/-- what scanning the answer of HMGET into a `redisToken` yields for a hash: each member in its own field, an absent
    member as the zero value (go-redis `Scan`, hand-written) -/
def scanTok (h : RHash) : Pb.RedisToken :=
  { IDToken := h.idToken.getD [], AccessToken := h.accessToken.getD [], RefreshToken := h.refreshToken.getD [],
    AccessTokenExpiresAt := { unixNano := h.accessExp }, TimeAdded := { unixNano := h.timeAdded } }

def scanAuth (h : RHash) : Pb.RedisAuthState :=
  { State := h.state.getD [], Nonce := h.nonce.getD [], RequestedURL := h.requestedUrl.getD [],
    CodeVerifier := h.codeVerifier.getD [], TimeAdded := { unixNano := h.timeAdded } }

/-- THE CODE's `redisToken.TokenResponse()`: every stored member lands in its own field of the token response (the
    creation time is not part of it) - the model's `Redis.tokensOf` -/
theorem code_redis_token (env : Go.Env) (h : RHash) :
    ∃ t, Code.TokenResponse env (scanTok h) = .ok t ∧ tokensOf t = some (Redis.tokensOf h) :=
  ⟨_, rfl, rfl⟩

/-- THE CODE's `redisAuthState.AuthorizationState()` is the model's `Redis.authOf` -/
theorem code_redis_auth (env : Go.Env) (h : RHash) :
    ∃ a, Code.AuthorizationState env (scanAuth h) = .ok a ∧ authOf a = some (Redis.authOf h) :=
  ⟨_, rfl, rfl⟩

/-! ### examples: a store with one session, created at 100 and last used at 150; absolute 1000, idle 100 -/

def exStore : Pb.MemoryStore :=
  { absoluteSessionTimeout := 1000, idleSessionTimeout := 100,
    sessions := [(B "s1", { added := { unixNano := some 100 }, accessed := { unixNano := some 150 } })] }

example : StoreWF exStore :=
  ⟨rfl, fun kv h => by cases List.mem_singleton.mp h; exact ⟨rfl, rfl, rfl⟩⟩

/-- exactly at the idle limit (150 + 100 = 250 is not before 250): still live, returned, store unchanged -/
example : (Code.live { now := { unixNano := some 250 } } exStore (B "s1")).map (fun r => (r.1.isNil, r.2.sessions.length)) = .ok (false, 1) := by decide +kernel
/-- one nanosecond later: reported absent, and deleted -/
example : (Code.live { now := { unixNano := some 251 } } exStore (B "s1")).map (fun r => (r.1.isNil, r.2.sessions.length)) = .ok (true, 0) := by decide +kernel
/-- a nil store panics (never constructed: NewMemoryStore) -/
example : Code.live {} { isNil := true } (B "s1") = .error "invalid memory address or nil pointer dereference" := rfl

end AuthModel.CodeEquiv
