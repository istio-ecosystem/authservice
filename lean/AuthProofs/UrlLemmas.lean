import AuthModel.Url
import AuthProofs.StrLemmas
namespace AuthModel
open Str

/-- bytes produced by `QueryEscape`: unreserved, `+`, `%` or upper-case hex digits - never `&`, `=`, `;`, `#`, `?` or space -/
def escSafe (b : UInt8) : Bool := unreserved b || b == 43 || b == 37

theorem escSafe_not_sep : ∀ b : UInt8, escSafe b = true → b ≠ 38 ∧ b ≠ 61 ∧ b ≠ 59 ∧ b ≠ 35 ∧ b ≠ 63 ∧ b ≠ 32 := by
  intro b h
  refine ⟨?_, ?_, ?_, ?_, ?_, ?_⟩ <;> rintro rfl <;> exact absurd h (by decide)

theorem unreserved_not_special {b : UInt8} (h : unreserved b = true) : b ≠ 37 ∧ b ≠ 43 := by
  constructor <;> rintro rfl <;> exact absurd h (by decide)

theorem upperHex_nibble : ∀ n : UInt8, n < 16 → unhex (upperHex n) = some n ∧ escSafe (upperHex n) = true :=
  forall_byte (by decide +kernel)

theorem nibbles : ∀ b : UInt8, b >>> 4 < 16 ∧ b &&& 15 < 16 ∧ (b >>> 4) <<< 4 ||| (b &&& 15) = b :=
  forall_byte (by decide +kernel)

theorem queryUnescape_cons_ne (b : UInt8) (s : Str) (h : b ≠ 37) :
    queryUnescape (b :: s) = match queryUnescape s with
      | some r => some ((if b = 43 then 32 else b) :: r)
      | none => none := by
  -- the last arm of `queryUnescape`; the side goals say that none of the three arms for `%` applies
  rw [queryUnescape]
  · rfl
  all_goals simp [h]

theorem queryEscape_safe (s : Str) : ∀ b ∈ queryEscape s, escSafe b = true := by
  fun_induction queryEscape s with
  | case1 => simp
  | case2 s ih => exact List.forall_mem_cons.mpr ⟨by decide, ih⟩
  | case3 b s _ hu ih => exact List.forall_mem_cons.mpr ⟨by simp [escSafe, hu], ih⟩
  | case4 b s _ _ ih =>
    obtain ⟨hh, hl, _⟩ := nibbles b
    simp only [List.forall_mem_cons]
    exact ⟨by decide, (upperHex_nibble _ hh).2, (upperHex_nibble _ hl).2, ih⟩

end AuthModel
