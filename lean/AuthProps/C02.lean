/-
  C02  Only IdP-issued, validated tokens are bound to a session and forwarded.
  Oracles: `attrs` (jwt.Parse), `sigOK` (jws.Verify with the configured key set). The theorems hold for every oracle.
-/
import AuthProofs.StateInventory
import AuthProofs.Ladder
import AuthProofs.CodeEquivOidc
import AuthProofs.CodeEquivResp
namespace AuthProps.C02
open AuthModel AuthModel.Oidc

/-- EVERY write of tokens to the session store, on every path of a check, in every environment, is one of two:
    (login) the ID token of THIS check's token-endpoint answer, which passed `isValidIDToken` against the nonce stored
    for the session named by the cookie (nonce required), after the login state was cleared; or (refresh) the merge
    of this check's refresh answer over the stored tokens, whose ID token passed `isValidIDToken`.
    The exact preceding sequence of actions and answers is part of `WriteOK`. -/
theorem bound_only_validated (cfg : Cfg) (o : Oracles) (req : Req) (prev : Headers) :
    AllActs (WriteOK cfg o req) (process cfg o req prev) [] :=
  process_writes cfg o req prev

/-- what "passed isValidIDToken" means: parses, nonce clause, audience contains the client id, key lookup succeeded
    and the signature verifies under the configured key set -/
theorem validated_meaning (cfg : Cfg) (o : Oracles) (tok en : Str) (nr : Bool) :
    validatedB cfg o tok en nr = true ↔
      ∃ a, o.attrs tok = some a ∧ nonceAccepted a en nr = true ∧ cfg.clientId ∈ a.aud ∧ o.sigOK tok = true :=
  validatedB_iff cfg o tok en nr

/-- at login the nonce must be present, a string, and equal to the stored one -/
theorem login_nonce_exact (a : TokAttrs) (expected : Str) :
    nonceAccepted a expected true = true ↔ a.nonce = .str expected := by
  unfold nonceAccepted
  cases h : a.nonce with
  | absent => simp
  | other => simp
  | str n => simp

/-- every member of a refresh result comes from this answer or from the stored value (for the ID token: the new one if it
    parses, else the stored one - that choice is `mergeTokens`' definition, the statement only bounds it) -/
theorem merged_provenance (o : Oracles) (old : Tokens) (b : IdpBody) (now : Int) :
    ((mergeTokens o old b now).idToken = b.idToken ∨ (mergeTokens o old b now).idToken = old.idToken) ∧
    ((mergeTokens o old b now).accessToken = b.accessToken ∨ (mergeTokens o old b now).accessToken = old.accessToken) ∧
    ((mergeTokens o old b now).refreshToken = b.refreshToken ∨ (mergeTokens o old b now).refreshToken = old.refreshToken) := by
  unfold mergeTokens
  refine ⟨?_, ?_, ?_⟩ <;> (simp only; split <;> simp)

/-- the tokens injected on OK are exactly the bound ones: the ID token always, the access token when forwarding is
    configured and one is held - each under its configured header and preamble (distinct header names) -/
theorem forwarded_eq_bound (cfg : Cfg) (t : Tokens) (h : ∀ hp, cfg.access = some hp → hp.1 ≠ cfg.idHeader) :
    encodeTokens cfg t =
      (cfg.idHeader, encodeHeaderValue cfg.idPreamble t.idToken) ::
        (match cfg.access with
         | some (hd, pre) => if t.accessToken = [] then [] else [(hd, encodeHeaderValue pre t.accessToken)]
         | none => []) := by
  unfold encodeTokens
  cases hc : cfg.access with
  | none => rfl
  | some hp =>
    obtain ⟨hd, pre⟩ := hp
    simp only
    split
    · rfl
    · exact if_neg (h (hd, pre) hc)

/-- the excluded point of `forwarded_eq_bound`: with equal header names the map keeps only the access token
    (recorded as known finding C02-equal-header-names and replayed on the implementation) -/
theorem same_header_drops_id (cfg : Cfg) (t : Tokens) (pre : Str) (h : cfg.access = some (cfg.idHeader, pre))
    (ht : t.accessToken ≠ []) :
    encodeTokens cfg t = [(cfg.idHeader, encodeHeaderValue pre t.accessToken)] := by
  simp [encodeTokens, h, ht]

/-- OK answers carry exactly those headers (after whatever an earlier filter of the chain left) -/
theorem ok_headers (cfg : Cfg) (prev : Headers) (t : Tokens) :
    allow cfg prev t = { code := cOK, http := .ok (prev ++ encodeTokens cfg t) } := rfl

example : nonceAccepted { exp := 0, aud := [], nonce := .str (B "n") } (B "n") true = true := by decide +kernel
example : nonceAccepted { exp := 0, aud := [], nonce := .str [] } (B "n") true = false := by decide +kernel
example : nonceAccepted { exp := 0, aud := [], nonce := .other } (B "n") false = false := by decide +kernel

/-- `encodeTokensToHeaders` (with `encodeHeaderValue`) AS TRANSLATED FROM THE GO SOURCE on this run never panics
    for a live handler and token set and produces exactly the model's `encodeTokens` - the ID token always, the access
    token when forwarding is configured and one is held, each under its configured header and preamble (and, as a Go
    map has one value per key, equal header names keep only the access token: the recorded finding). -/
theorem code_forwarded_headers (env : Go.Env) (o : Pb.OidcHandler) (t : Pb.TokenResponse) (cfg : Cfg) (tok : Tokens)
    (ho : o.isNil = false) (hc : o.config.isNil = false) (ht : t.isNil = false)
    (hid : cfg.idHeader = o.config.IdToken.GetHeader) (hpre : cfg.idPreamble = o.config.IdToken.GetPreamble)
    (hacc : cfg.access = if o.config.AccessToken.isNil then none
      else some (o.config.AccessToken.Header, o.config.AccessToken.Preamble))
    (h1 : tok.idToken = t.IDToken) (h2 : tok.accessToken = t.AccessToken) :
    Code.encodeTokensToHeaders env o t = .ok (encodeTokens cfg tok) :=
  code_encodeTokens env o t cfg tok ho hc ht hid hpre hacc h1 h2

example : Code.encodeTokensToHeaders {} { config := { IdToken := { isNil := false, Header := B "authorization", Preamble := B "Bearer" } } }
    { IDToken := B "tok" } = .ok [(B "authorization", B "Bearer tok")] := by rw [B_ofList, B_ofList, B_ofList, B_ofList]; decide +kernel

/-- THE CODE's `allowResponse`: the forwarded headers are appended to the OK response, after what an earlier filter left -
    in the order in which `encodeTokensToHeaders` inserted them; the Go code ranges over a map there and may emit the two
    headers in the other order (DESIGN 11.1) -/
theorem code_ok_headers (env : Go.Env) (o : Pb.OidcHandler) (resp : Pb.CheckResponse) (t : Pb.TokenResponse) (cfg : Cfg) (tok : Tokens)
    (hr : resp.isNil = false) (ho : o.isNil = false) (hc : o.config.isNil = false) (ht : t.isNil = false)
    (hid : cfg.idHeader = o.config.IdToken.GetHeader) (hpre : cfg.idPreamble = o.config.IdToken.GetPreamble)
    (hacc : cfg.access = if o.config.AccessToken.isNil then none else some (o.config.AccessToken.Header, o.config.AccessToken.Preamble))
    (h1 : tok.idToken = t.IDToken) (h2 : tok.accessToken = t.AccessToken) :
    ∃ r, Code.allowResponse env o resp t = .ok r ∧ CodeEquiv.respOf r = allow cfg (CodeEquiv.prevOk resp) tok :=
  CodeEquiv.code_allow env o resp t cfg tok hr ho hc ht hid hpre hacc h1 h2

theorem no_hidden_state : CheckPathInventory := check_path_inventory

end AuthProps.C02

#print axioms AuthProps.C02.bound_only_validated
#print axioms AuthProps.C02.validated_meaning
#print axioms AuthProps.C02.login_nonce_exact
#print axioms AuthProps.C02.merged_provenance
#print axioms AuthProps.C02.forwarded_eq_bound
#print axioms AuthProps.C02.same_header_drops_id
#print axioms AuthProps.C02.ok_headers
#print axioms AuthProps.C02.code_forwarded_headers
#print axioms AuthProps.C02.no_hidden_state
#print axioms AuthProps.C02.code_ok_headers
