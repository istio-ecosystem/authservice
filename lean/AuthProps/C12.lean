/-
  C12  Memory and Redis stores both implement one abstract session map.
  Spec: AuthModel.Spec (a plain map id ↦ {login state, tokens, created}); the two store models are
  AuthModel.MemStore and AuthModel.Redis (command sequences over a hash+TTL server).
-/
import AuthProofs.StateInventory
import AuthProofs.StoreSeq
import AuthProofs.RedisCmd
import AuthProofs.CodeEquivStore
namespace AuthProps.C12
open AuthModel

/-! ### every history, timeouts off: both stores answer exactly like the plain map -/

/-- MEMORY: for every sequence of operations (any length, any ids, any clock readings) the in-memory store
    returns what the plain map returns. -/
theorem memory_refines_spec (ops : List (Int × SOp)) :
    runOps memStep (MemStore.empty 0 0) ops = runOps (specStep false) (fun _ => none) ops :=
  memory_history_refines (MemStore.empty 0 0) rfl rfl (fun _ => none) (fun _ => rfl) ops

/-- REDIS: for every sequence of operations writing only well-formed values (`WFOp`: non-empty, parseable ID token; four
    non-empty login-state members - what the handler writes as long as the token parser rejects the empty string; not derived
    from `WriteOK`), the Redis store returns what the plain map returns. The single named
    difference to the memory store - clearing the login state of an absent id reports ErrRedis - is part of
    `specStep true`. -/
theorem redis_refines_spec (parses : Str → Bool) (ops : List (Int × SOp)) (hwf : ∀ x ∈ ops, WFOp parses x.2) :
    runOps (redisStep parses 0 0) (fun _ => {}) ops = runOps (specStep true) (fun _ => none) ops :=
  redis_history_refines parses (fun _ => {}) (fun _ => none) (fun _ => Redis.RInv_empty)
    rfl ops hwf

/-- hence the two stores are indistinguishable on histories on which the two plain maps answer alike (`h`: the case when no
    absent id is cleared; that implication is not stated) -/
theorem stores_agree (parses : Str → Bool) (ops : List (Int × SOp)) (hwf : ∀ x ∈ ops, WFOp parses x.2)
    (h : runOps (specStep true) (fun _ => none) ops = runOps (specStep false) (fun _ => none) ops) :
    runOps memStep (MemStore.empty 0 0) ops = runOps (redisStep parses 0 0) (fun _ => {}) ops := by
  rw [memory_refines_spec, redis_refines_spec parses ops hwf, h]

/-! ### each single operation, timeouts ON (memory): at the instant of the operation the store is the map of
    its live sessions -/

theorem memory_setTok (m : MemStore) (now : Int) (id : Str) (t : Tokens) :
    MemStore.absM (m.setTok now id t) now = Spec.setTok (MemStore.absM m now) id t now := MemStore.setTok_refines m now id t
theorem memory_setAuth (m : MemStore) (now : Int) (id : Str) (a : AuthState) :
    MemStore.absM (m.setAuth now id a) now = Spec.setAuth (MemStore.absM m now) id a now := MemStore.setAuth_refines m now id a
theorem memory_getTok (m : MemStore) (now : Int) (id : Str) :
    (m.getTok now id).2 = Spec.getTok (MemStore.absM m now) id ∧ MemStore.absM (m.getTok now id).1 now = MemStore.absM m now :=
  MemStore.getTok_refines m now id
theorem memory_getAuth (m : MemStore) (now : Int) (id : Str) :
    (m.getAuth now id).2 = Spec.getAuth (MemStore.absM m now) id ∧ MemStore.absM (m.getAuth now id).1 now = MemStore.absM m now :=
  MemStore.getAuth_refines m now id
theorem memory_clearAuth (m : MemStore) (now : Int) (id : Str) :
    MemStore.absM (m.clearAuth now id) now = Spec.clearAuth (MemStore.absM m now) id := MemStore.clearAuth_refines m now id
theorem memory_remove (m : MemStore) (now : Int) (id : Str) :
    MemStore.absM (m.remove id) now = Spec.remove (MemStore.absM m now) id := MemStore.remove_refines m now id
theorem memory_sweep_invisible (m : MemStore) (now : Int) :
    MemStore.absM (m.removeAllExpired now) now = MemStore.absM m now := MemStore.removeAllExpired_invisible m now

/-! ### the clauses of the statement, as facts about the plain map (they transfer through the refinements) -/

theorem read_sees_latest_write (m : SpecMap) (id : Str) (t : Tokens) (now : Int) :
    Spec.getTok (Spec.setTok m id t now) id = some t := by
  rw [Spec.getTok_setTok, if_pos rfl]

theorem read_sees_latest_login_state (m : SpecMap) (id : Str) (a : AuthState) (now : Int) :
    Spec.getAuth (Spec.setAuth m id a now) id = some a := by
  rw [Spec.getAuth_setAuth, if_pos rfl]

theorem ids_do_not_interfere (m : SpecMap) (id id' : Str) (t : Tokens) (a : AuthState) (now : Int) (h : id' ≠ id) :
    Spec.setTok m id t now id' = m id' ∧ Spec.setAuth m id a now id' = m id' ∧
    Spec.clearAuth m id id' = m id' ∧ Spec.remove m id id' = m id' := by
  -- each of the four writes is `upd` at `id`
  have o : ∀ v, upd m id v id' = m id' := fun v => MemStore.upd_other m id id' v h
  rw [Spec.clearAuth_eq]
  exact ⟨o _, o _, o _, o _⟩

theorem remove_erases_everything (m : SpecMap) (id : Str) :
    Spec.remove m id id = none ∧ Spec.getTok (Spec.remove m id) id = none ∧ Spec.getAuth (Spec.remove m id) id = none :=
  ⟨MemStore.upd_same .., by simp, by simp⟩

theorem clear_keeps_tokens (m : SpecMap) (id : Str) :
    Spec.getTok (Spec.clearAuth m id) id = Spec.getTok m id ∧ Spec.getAuth (Spec.clearAuth m id) id = none := by
  simp

theorem created_fixed_by_first_write (m : SpecMap) (id : Str) (s : Sess) (t : Tokens) (a : AuthState) (now : Int)
    (h : m id = some s) :
    (Spec.setTok m id t now id).map (·.created) = some s.created ∧
    (Spec.setAuth m id a now id).map (·.created) = some s.created ∧
    (Spec.clearAuth m id id).map (·.created) = some s.created := by
  simp [Spec.setTok, Spec.setAuth, Spec.clearAuth, upd, h]

theorem first_write_sets_created (m : SpecMap) (id : Str) (t : Tokens) (now : Int) (h : m id = none) :
    (Spec.setTok m id t now id).map (·.created) = some now := by
  simp [Spec.setTok, upd, h]

/-- Any replica serves any session. What carries this is the TYPE of `redisStep` - a store method is a function of (timeouts,
    clock reading, server state) only; the equation below is then trivial (two instances with the same timeouts). (That no instance field is written after
    construction is a regenerated source fact, see Generated.Facts.) -/
theorem replica_irrelevant (parses : Str → Bool) (r1 r2 : RedisStore) (h1 : r1.abs = r2.abs) (h2 : r1.idle = r2.idle)
    (srv : Str → RHash) (now : Int) (op : SOp) :
    redisStep parses r1.abs r1.idle srv now op = redisStep parses r2.abs r2.idle srv now op := by
  rw [h1, h2]

/-- named allowance (i): on an absent id Redis reports an error, and leaves nothing behind -/
theorem redis_clear_absent (now : Int) : Redis.clearAuth 0 0 now {} = ({}, false) := rfl

/- Non-vacuity: a concrete history with writes, reads, a clear and a remove on two ids. -/
def tokX : Tokens := { idToken := B "jwt", accessToken := B "at", refreshToken := [], accessExp := some 5 }
def authX : AuthState := ⟨B "s", B "n", B "u", B "v"⟩
def demoOps : List (Int × SOp) :=
  [(1, .setAuth (B "a") authX), (2, .getAuth (B "a")), (3, .setTok (B "a") tokX), (4, .clearAuth (B "a")),
   (5, .getTok (B "a")), (6, .getAuth (B "a")), (7, .getTok (B "b")), (8, .remove (B "a")), (9, .getTok (B "a"))]
example : runOps (specStep false) (fun _ => none) demoOps =
    [.done, .auth (some authX), .done, .done, .tok (some tokX), .auth none, .tok none, .done, .tok none] := by decide +kernel
example : ∀ x ∈ demoOps, WFOp (fun _ => true) x.2 := by
  intro x hx; simp [demoOps] at hx
  rcases hx with h | h | h | h | h | h | h | h | h <;> subst h <;> simp [WFOp, Redis.TokOK, Redis.AuthOK, tokX, authX, B]

/-! ### Redis at the level of commands, with faults (AuthModel/Store/RedisCmd.lean) -/
section Faults
open RedisCmd Redis

/-- REPORTED SUCCESS IS THE FAULT-FREE BEHAVIOUR (command level, any fault script). If a write method of the Redis store
    returns nil although commands may fail - before or after taking effect on the server - then no command failed, and
    state and result are those of the functional model `Store/Redis.lean` the refinement theorems are about. -/
theorem redis_write_success_is_faultfree (abs idle now : Int) (fs : List Fault) (h : RHash) :
    (∀ t, (run now fs (setTokP abs idle now t) (visible now h)).res = true →
        ((run now fs (setTokP abs idle now t) (visible now h)).state, true) = Redis.setTok abs idle now t h) ∧
    (∀ a, (run now fs (setAuthP abs idle now a) (visible now h)).res = true →
        ((run now fs (setAuthP abs idle now a) (visible now h)).state, true) = Redis.setAuth abs idle now a h) ∧
    ((run now fs (clearAuthP abs idle now) (visible now h)).res = true →
        ((run now fs (clearAuthP abs idle now) (visible now h)).state, true) = Redis.clearAuth abs idle now h) := by
  -- a strict program that reports success ran without faults, and the fault-free run is the functional model
  have key : ∀ (p : RP Bool), Strict isFail p → ∀ s r, (run now [] p s).out = r → (run now fs p s).res = true →
      ((run now fs p s).state, true) = r := by
    intro p hp s r hr hok
    rw [← hr, ← hok, hp.run_eq now fs s (by rw [hok]; exact Bool.noConfusion)]
    rfl
  exact ⟨fun t => key _ (setTokP_strict abs idle now t) _ _ (setTokP_nil ..),
    fun a => key _ (setAuthP_strict abs idle now a) _ _ (setAuthP_nil ..),
    key _ (clearAuthP_strict abs idle now) _ _ (clearAuthP_nil ..)⟩

/-- the same for the reads: an answer other than an error is the fault-free answer -/
theorem redis_read_success_is_faultfree (parses : Str → Bool) (abs idle now : Int) (fs : List Fault) (h : RHash) :
    ((run now fs (getTokP parses abs idle now) (visible now h)).res ≠ .err →
        ((run now fs (getTokP parses abs idle now) (visible now h)).state,
         (run now fs (getTokP parses abs idle now) (visible now h)).res) = Redis.getTok parses abs idle now h) ∧
    ((run now fs (getAuthP abs idle now) (visible now h)).res ≠ .err →
        ((run now fs (getAuthP abs idle now) (visible now h)).state,
         (run now fs (getAuthP abs idle now) (visible now h)).res) = Redis.getAuth abs idle now h) :=
  ⟨fun hok => by rw [(getTokP_strict parses abs idle now).run_eq now fs _ hok]; exact getTokP_nil ..,
    fun hok => by rw [(getAuthP_strict abs idle now).run_eq now fs _ hok]; exact getAuthP_nil ..⟩

/-- A FAILED COMMAND IS NEVER REPORTED AS SUCCESS: every method of the Redis store, under every fault script -/
theorem redis_fault_is_error (parses : Str → Bool) (abs idle now : Int) (fs : List Fault) (h : RHash) :
    (∀ t, (run now fs (setTokP abs idle now t) h).faulted = true → (run now fs (setTokP abs idle now t) h).res = false) ∧
    (∀ a, (run now fs (setAuthP abs idle now a) h).faulted = true → (run now fs (setAuthP abs idle now a) h).res = false) ∧
    ((run now fs (clearAuthP abs idle now) h).faulted = true → (run now fs (clearAuthP abs idle now) h).res = false) ∧
    ((run now fs removeP h).faulted = true → (run now fs removeP h).res = false) ∧
    ((run now fs (getTokP parses abs idle now) h).faulted = true → (run now fs (getTokP parses abs idle now) h).res = .err) ∧
    ((run now fs (getAuthP abs idle now) h).faulted = true → (run now fs (getAuthP abs idle now) h).res = .err) :=
  ⟨fun t => setTokP_strict abs idle now t now fs h, fun a => setAuthP_strict abs idle now a now fs h,
   clearAuthP_strict abs idle now now fs h, removeP_strict now fs h,
   getTokP_strict parses abs idle now now fs h, getAuthP_strict abs idle now now fs h⟩

/-- the command sequences of the fault-free methods (compared with the commands the real client issues) -/
example : (run 5 [] (setTokP 10 4 5 { idToken := B "i", accessToken := B "a" }) {}).issued
    = ["hset", "hset", "hdel", "hsetnx", "hget", "expireat"] := by decide +kernel
end Faults

/-! ### about the code as translated from the source (Generated/CodeStore.lean) -/

/-- THE CODE's `newSession(t)` is the empty session created and last accessed at `t` (what the memory model's `set`
    starts a new session from) -/
theorem code_new_session (env : Go.Env) (t : Go.Time) :
    ∃ s, Code.newSession env t = .ok s ∧ s.isNil = false ∧ s.added = t ∧ s.accessed = t ∧
      (CodeEquiv.sessOf s).tokens = none ∧ (CodeEquiv.sessOf s).auth = none :=
  ⟨_, rfl, rfl, rfl, rfl, rfl, rfl⟩

/-- THE CODE's conversions of what the Redis store scans out of a hash are the model's `tokensOf` / `authOf`: every
    stored member lands in its own field, for every hash -/
theorem code_redis_records (env : Go.Env) (h : RHash) :
    (∃ t, Code.TokenResponse env (CodeEquiv.scanTok h) = .ok t ∧ CodeEquiv.tokensOf t = some (Redis.tokensOf h)) ∧
    (∃ a, Code.AuthorizationState env (CodeEquiv.scanAuth h) = .ok a ∧ CodeEquiv.authOf a = some (Redis.authOf h)) :=
  ⟨CodeEquiv.code_redis_token env h, CodeEquiv.code_redis_auth env h⟩

/-- THE CODE's `live` agrees with the memory model on every well-formed store (see C10 for the timeout readings) -/
theorem code_live_is_model (env : Go.Env) (m : Pb.MemoryStore) (id : Str) (now : Int)
    (hwf : CodeEquiv.StoreWF m) (hnow : env.now.unixNano = some now) :
    ∃ s m', Code.live env m id = .ok (s, m') ∧
      CodeEquiv.sessOpt s = ((CodeEquiv.storeOf m).live now id).2 ∧
      (∀ k, (CodeEquiv.storeOf m').sessions k = ((CodeEquiv.storeOf m).live now id).1.sessions k) ∧
      CodeEquiv.StoreWF m' := by
  obtain ⟨s, m', h1, h2, _, _, h5, h6⟩ := CodeEquiv.code_live env m id now hwf hnow
  exact ⟨s, m', h1, h2, h5, h6⟩

theorem no_hidden_state : StoreInventory := store_inventory

end AuthProps.C12

#print axioms AuthProps.C12.memory_refines_spec
#print axioms AuthProps.C12.redis_refines_spec
#print axioms AuthProps.C12.stores_agree
#print axioms AuthProps.C12.memory_setTok
#print axioms AuthProps.C12.memory_setAuth
#print axioms AuthProps.C12.memory_getTok
#print axioms AuthProps.C12.memory_getAuth
#print axioms AuthProps.C12.memory_clearAuth
#print axioms AuthProps.C12.memory_remove
#print axioms AuthProps.C12.memory_sweep_invisible
#print axioms AuthProps.C12.read_sees_latest_write
#print axioms AuthProps.C12.read_sees_latest_login_state
#print axioms AuthProps.C12.ids_do_not_interfere
#print axioms AuthProps.C12.remove_erases_everything
#print axioms AuthProps.C12.clear_keeps_tokens
#print axioms AuthProps.C12.created_fixed_by_first_write
#print axioms AuthProps.C12.first_write_sets_created
#print axioms AuthProps.C12.replica_irrelevant
#print axioms AuthProps.C12.redis_clear_absent
#print axioms AuthProps.C12.redis_write_success_is_faultfree
#print axioms AuthProps.C12.redis_read_success_is_faultfree
#print axioms AuthProps.C12.redis_fault_is_error
#print axioms AuthProps.C12.no_hidden_state
#print axioms AuthProps.C12.code_new_session
#print axioms AuthProps.C12.code_redis_records
#print axioms AuthProps.C12.code_live_is_model
