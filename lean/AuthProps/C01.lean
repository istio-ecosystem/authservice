/-
  C01  Fail-closed: OK only for a live session with fresh or just-refreshed tokens.
  Model: AuthModel.Oidc.process (interaction tree of Process), AuthModel.check (chain loop).
  `AllPaths P prog []` quantifies over EVERY environment: any store content and answer (so: after any history), any
  injected fault, any token-endpoint answer, any key-source behaviour, any clock reading.
-/
import AuthProofs.StateInventory
import AuthProofs.Ladder
import AuthProofs.CodeEquivOidc
import AuthProofs.CodeEquivCheck
import AuthProofs.Chain
import AuthProofs.Redis
namespace AuthProps.C01
open AuthModel AuthModel.Oidc

/-- every OK of `Process` is justified: session cookie present, tokens read from the store under that id during this
    check, and either unexpired at check time and forwarded as they are, or expired with a refresh token and renewed by
    this check's refresh exchange (well-formed answer, merged token validated, stored successfully), in which case
    the merged tokens are forwarded. The exact sequence of actions and answers on the path is part of the statement. -/
theorem ok_justified (cfg : Cfg) (o : Oracles) (req : Req) (prev : Headers) :
    AllPaths (fun tr r => r.code = cOK → Justified cfg o req prev tr r) (process cfg o req prev) [] :=
  process_ok_justified cfg o req prev

/-- any failure of the session store, the token endpoint or the key source at any point of the check (the fault
    schedule is universally quantified: singly, in pairs, any number; before or after taking effect - the model does not
    distinguish, the answer to the handler is the same error) means the answer is not OK -/
theorem fault_never_ok (cfg : Cfg) (o : Oracles) (req : Req) (prev : Headers) :
    AllPaths (fun tr r => r.code = cOK → ∀ x ∈ tr, ¬ IsFailure x.2) (process cfg o req prev) [] := by
  -- `Justified` lists the whole trace of an OK path: no answer on it is a failure
  refine allPaths_mono (fun tr r h hc x hx => ?_) (process_ok_justified cfg o req prev)
  obtain ⟨_, _, t, a, now, _, ⟨_, _, rfl⟩ | ⟨_, _, b, now2, authAns, _, _, _, rfl⟩⟩ := h hc
  · simp at hx; rcases hx with rfl | rfl <;> simp [IsFailure]
  · simp at hx; rcases hx with rfl | rfl | rfl | rfl | rfl | rfl | rfl <;> simp [IsFailure]

/-- the executable sequential semantics (the one compared with the implementation) is one of those paths -/
theorem run_ok_justified (cfg : Cfg) (o : Oracles) (req : Req) (prev : Headers) (w : StoreW) (now : Int) (sc : Script)
    (faults : List Nat) :
    (traceOfRun w now sc (process cfg o req prev) faults []).2.1.code = cOK →
      Justified cfg o req prev (traceOfRun w now sc (process cfg o req prev) faults []).2.2
        (traceOfRun w now sc (process cfg o req prev) faults []).2.1 :=
  run_satisfies w now sc _ faults [] (process_ok_justified cfg o req prev)

theorem run_matches_driver (cfg : Cfg) (o : Oracles) (req : Req) (prev : Headers) (w : StoreW) (now : Int) (sc : Script)
    (faults : List Nat) :
    (traceOfRun w now sc (process cfg o req prev) faults []).2.1 = (runProg w now sc (process cfg o req prev) faults []).2.1 :=
  congrArg (·.2.1) (traceOfRun_eq_runProg w now sc _ faults [])

/-- the login redirect (no session cookie) and the callback never answer OK -/
theorem no_cookie_never_ok (cfg : Cfg) (o : Oracles) (req : Req) : NeverOK (redirectToIdp cfg o req []) :=
  neverOK_redirectToIdp cfg o req []
theorem callback_never_ok (cfg : Cfg) (o : Oracles) (req : Req) (sid : Str) : NeverOK (retrieveTokens cfg o req sid) :=
  neverOK_retrieveTokens cfg o req sid

/-- through `Check`: a triggered request is answered OK only if every filter of the judging chain answered OK (a handler
    error gives no verdict: C08 `handler_error_no_verdict`) -/
theorem chain_ok_needs_all (fs : List Filter) (r out : Resp)
    (h : runFilters fs r = some out) (hok : out.code = cOK) : AllAllow fs r out :=
  runFilters_ok_allAllow fs r out h hok

/-- crash points inside a Redis write: after ANY prefix of the commands of SetTokenResponse(t') over a hash holding
    tokens t, every token member the hash holds is the one of t or the one of t' - nothing else can be manufactured -/
theorem redis_prefix_safe (t' : Tokens) (now : Int) (h : RHash) (k : Nat) :
    Redis.PrefixInv h t' (Redis.runSteps ((Redis.setTokSteps t' now).take k) h) :=
  List.foldlRecOn _ _ ⟨.inl rfl, .inl rfl, .inl rfl, .inl rfl⟩ fun x hx f hf =>
    Redis.step_inv h t' now f (List.mem_of_mem_take hf) x hx

/- Non-vacuity. The antecedent of `ok_justified` (an OK answer) is met by real paths: the differential run of every check executes
   the model on thousands of request lines and hundreds of them end in OK through both justified shapes (see
   "answer:ok" and "refresh-success" in the evidence). A cheap kernel-checked instance of a path of the tree: -/
example (cfg : Cfg) (o : Oracles) : process cfg o { http := false } = .ret (deny cInvalidArgument) := rfl
example (cfg : Cfg) (o : Oracles) (sid : Str) (t : Tokens) (a : TokAttrs) (now : Int) :
    Justified cfg o { http := true, cookie := [] } [] [] (allow cfg [] t) → False := by
  intro h; exact h.2.1 (by simp [sessionIdFromCookie])

theorem no_hidden_state : CheckPathInventory := check_path_inventory

/-! ### The expiry test and the filter loop as translated from /repo -/

/-- `areRequiredTokensExpired` AS TRANSLATED FROM THE GO SOURCE on this run is the model's `tokensExpired`: the stored
    tokens count as expired when the ID token's `exp` lies before now, or - with access-token forwarding configured, an
    access token held and its expiry KNOWN (not the zero time) - when that expiry lies before now; an ID token that does
    not parse is an error, never "not expired". The fresh branch of `ok_justified` rests on exactly this test. -/
theorem code_expiry_test (env : Go.Env) (o : Pb.OidcHandler) (t : Pb.TokenResponse) (cfg : Cfg) (a : TokAttrs) (tok : Tokens)
    (now : Int) (jt : Go.JwtToken)
    (ho : o.isNil = false) (hc : o.config.isNil = false) (ht : t.isNil = false) (hj : jt.isNil = false)
    (hexp : jt.exp.unixNano = some a.exp) (hnow : env.now.unixNano = some now)
    (hacc : cfg.access.isSome = !o.config.GetAccessToken.isNil)
    (h2 : tok.accessToken = t.AccessToken) (h3 : tok.accessExp = t.AccessTokenExpiresAt.unixNano) :
    (env.parseTokenOracle t.IDToken = (jt, false) →
      Code.areRequiredTokensExpired env o t = .ok (tokensExpired cfg a tok now, {})) ∧
    (∀ jt', env.parseTokenOracle t.IDToken = (jt', true) →
      Code.areRequiredTokensExpired env o t = .ok (false, { isNil := false })) :=
  ⟨fun hp => code_tokensExpired env o t cfg a tok now jt ho ht hp hj hexp hnow hacc h2 h3,
   fun jt' hp => code_tokensExpired_unparsable env o t jt' ht hp⟩

/-- On the translated `Check`: a triggered request whose first matching chain has filters is answered with what that
    chain's filter loop returns, and that loop returns an allowing response only if EVERY filter of the chain allowed
    (`runFiltersPb` ends in `.ok (r', {})` with all steps `.inr`): see C08 `code_first_match_wins`, `code_all_allow`,
    `code_stops_at_first_denial`. Here: a handler construction error or a `Process` error gives an error and NO verdict. -/
theorem code_handler_error_no_verdict (h : Pb.Handlers) (req : Pb.CheckRequest) (f : Pb.Filter) (o : Pb.Filter_Oidc)
    (r : Pb.CheckResponse) (post : List Pb.Filter)
    (hf : f.isNil = false) (hty : f.Type_ = .Oidc o) (herr : (h.newOIDC o.Oidc).2.isNil = false) :
    runFiltersPb h req (f :: post) r = .ok ({ isNil := true }, (h.newOIDC o.Oidc).2) := by
  simp [runFiltersPb, filterStepPb, hf, hty, herr]

example : Code.areRequiredTokensExpired { parseTokenOracle := fun _ => ({ exp := ⟨some 100⟩ }, false), now := ⟨some 101⟩ }
    { config := {} } { IDToken := B "x" } = .ok (true, {}) := by decide +kernel
example : Code.areRequiredTokensExpired { parseTokenOracle := fun _ => ({ exp := ⟨some 100⟩ }, false), now := ⟨some 100⟩ }
    { config := { AccessToken := { isNil := false } } } { IDToken := B "x", AccessToken := B "at" } = .ok (false, {}) := by decide +kernel

end AuthProps.C01

#print axioms AuthProps.C01.ok_justified
#print axioms AuthProps.C01.fault_never_ok
#print axioms AuthProps.C01.run_ok_justified
#print axioms AuthProps.C01.run_matches_driver
#print axioms AuthProps.C01.no_cookie_never_ok
#print axioms AuthProps.C01.callback_never_ok
#print axioms AuthProps.C01.chain_ok_needs_all
#print axioms AuthProps.C01.redis_prefix_safe
#print axioms AuthProps.C01.no_hidden_state
#print axioms AuthProps.C01.code_expiry_test
#print axioms AuthProps.C01.code_handler_error_no_verdict
