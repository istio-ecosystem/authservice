/-
  C06  Session ids, state and nonce are unpredictable.
  What a proof can say: information flow - which outputs are functions of which inputs. The unpredictability of
  crypto/rand itself is trusted (PARTIAL).
-/
import AuthProofs.StateInventory
import AuthProofs.Gen
import AuthProofs.StrLemmas
import AuthModel.Generated.Facts
namespace AuthProps.C06
open AuthModel AuthModel.Gen

/-- the session id depends on a segment of the entropy stream that nothing public depends on: replacing that segment
    changes the id to ANY other producible id while nonce, state and verifier (hence the code challenge) stay exactly
    the same. The request time is not an input of the generator at all. -/
theorem sid_independent_of_public (seg seg' rest : Str) (sid sid' : Str)
    (h : draw seg 64 = some (sid, [])) (h' : draw seg' 64 = some (sid', [])) :
    (genAll (seg ++ rest)).map (fun i => (i.nonce, i.state, i.verifierBytes)) =
      (genAll (seg' ++ rest)).map (fun i => (i.nonce, i.state, i.verifierBytes)) ∧
    (genAll (seg ++ rest)).map (·.sid) = (publicPart rest).map (fun _ => sid) ∧
    (genAll (seg' ++ rest)).map (·.sid) = (publicPart rest).map (fun _ => sid') :=
  Gen.sid_independent_of_public seg seg' rest sid sid' h h'

/-- every 64-character id over the charset is producible (so the alternative id above ranges over all of them) -/
theorem every_id_reachable (idx : Str) (h : ∀ b ∈ idx, b.toNat < 62) :
    draw idx idx.length = some (idx.map charOf, []) := by
  induction idx with
  | nil => simp [draw]
  | cons b s ih =>
    obtain ⟨hb, hs⟩ := List.forall_mem_cons.mp h
    have : b.toNat < limit := Nat.lt_trans hb (by decide)
    simp [draw, this, ih hs]

/-- no modulo bias: each of the 62 characters is selected by exactly 4 of the 248 accepted byte values, so uniform
    independent bytes give uniform independent characters: 64 x log2(62) = 381 bits per session id -/
theorem draw_uniform : ∀ v : Fin 62,
    ((List.range 256).filter fun b => decide (b < limit) && decide (b % 62 = v.val)).length = 4 := Gen.draw_uniform

theorem charset_distinct : charset.length = 62 ∧ charset.Nodup := by
  -- the character codes are three ranges that do not meet: a-z, A-Z, 0-9
  have h : charset.map UInt8.toNat = List.range' 97 26 ++ (List.range' 65 26 ++ List.range' 48 10) := by
    rw [charset, B_ofList]; decide +kernel
  have hn : (charset.map UInt8.toNat).Nodup := by
    rw [h]
    simp only [List.nodup_append, List.mem_append, List.mem_range'_1]
    exact ⟨List.nodup_range' .., ⟨List.nodup_range' .., List.nodup_range' .., by omega⟩, by omega⟩
  exact ⟨by simpa using congrArg List.length h, hn.of_map _ fun _ _ hne e => hne (congrArg _ e)⟩

/-! ### obligations over the regenerated source facts (F4) -/

/-- no `math/rand`, the generator draws from `crypto/rand` -/
theorem no_prng_import : ("math/rand" ∈ Generated.sessionImports) = False ∧ ("math/rand/v2" ∈ Generated.sessionImports) = False ∧
    "crypto/rand" ∈ Generated.sessionImports := by decide +kernel

/-- the only package-qualified calls on the code paths that produce identifiers: no clock, no seed, no other source -/
theorem generator_calls_exact :
    Generated.generatorCalls = [("GenerateCodeVerifier", "oauth2.GenerateVerifier"), ("generate", "rand.Read")] := rfl

theorem identifier_lengths :
    Generated.genLengths = [("GenerateSessionID", "64"), ("GenerateNonce", "32"), ("GenerateState", "32")] := rfl

theorem charset_matches_source : charset = Generated.charset := rfl
theorem limit_formula : limit = 256 - 256 % charset.length := by rw [charset_distinct.1]; rfl

/- Non-vacuity: 64 accepted bytes produce an id and are consumed exactly; a rejected byte (250) is skipped -/
example : draw [0, 250, 1, 61] 3 = some ([97, 98, 57], []) := by
  -- the charset literal is unfolded so that `B_ofList` can read it off its characters
  simp only [draw, charOf, charset]
  rw [B_ofList]
  decide +kernel
example : ∃ seg sid, seg.length = 64 ∧ draw seg 64 = some (sid, []) :=
  ⟨List.replicate 64 7, _, List.length_replicate, every_id_reachable (List.replicate 64 7) (by decide)⟩

theorem no_hidden_state : CheckPathInventory := check_path_inventory

end AuthProps.C06

#print axioms AuthProps.C06.sid_independent_of_public
#print axioms AuthProps.C06.every_id_reachable
#print axioms AuthProps.C06.draw_uniform
#print axioms AuthProps.C06.charset_distinct
#print axioms AuthProps.C06.no_prng_import
#print axioms AuthProps.C06.generator_calls_exact
#print axioms AuthProps.C06.identifier_lengths
#print axioms AuthProps.C06.charset_matches_source
#print axioms AuthProps.C06.limit_formula
#print axioms AuthProps.C06.no_hidden_state
