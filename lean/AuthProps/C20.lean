/-
  C20  IdP TLS trust follows the configuration, including CA rotation.
  PARTIAL: the decision logic, the pool and the watcher state machine are proved; handshake behaviour (crypto/tls,
  x509 chain building) and timer scheduling are trusted / exercised by real handshakes in the differential run.
-/
import AuthProofs.StateInventory
import AuthProofs.Tls
import AuthProofs.CodeEquivInternal
import AuthModel.Generated.Facts
namespace AuthProps.C20
open AuthModel AuthModel.Tls

/-- the trust decision for settings loaded for the first time: nothing configured → library defaults; a CA (inline,
    else from file) → system roots plus that CA with verification ON whatever skip says; only skip → verification
    off iff the bool / the parsed string says so -/
theorem trust_decision (o : Oracle) (st : State) (s : Settings) (hnew : lookupPool st.pool (keyOf o s) = none) :
    (load o st s).2 =
      if s.caInline = [] ∧ s.caFile = [] ∧ s.skip = .unset then .noConfig
      else if s.caInline ≠ [] then (if o.pemOk s.caInline then .cfg { insecure := false, extra := some s.caInline } else .error)
      else if s.caFile ≠ [] then
        (match st.files s.caFile with
         | none => .error
         | some data => if data ≠ [] then (if o.pemOk data then .cfg { insecure := false, extra := some data } else .error)
                        else .cfg { insecure := false, extra := none })
      else .cfg { insecure := boolStr o s.skip, extra := none } :=
  load_fresh hnew

/-- verification is skipped only when that is requested and no CA (inline or file) is given: a CA wins over
    skip-verify -/
theorem skip_only_when_requested_and_no_ca (o : Oracle) (st : State) (s : Settings) (t : Trust)
    (hnew : lookupPool st.pool (keyOf o s) = none) (h : (load o st s).2 = .cfg t) (hi : t.insecure = true) :
    s.caInline = [] ∧ s.caFile = [] ∧ boolStr o s.skip = true :=
  (insecure_iff hnew h).mp hi

/-- once an entry exists, loading the same settings returns it and changes nothing (no second entry, no second
    watcher) -/
theorem identical_settings_share (o : Oracle) (st : State) (s : Settings) (t : Trust) (h : lookupPool st.pool (keyOf o s) = some t)
    (hne : ¬(s.caInline = [] ∧ s.caFile = [] ∧ s.skip = .unset)) : load o st s = (st, .cfg t) :=
  pool_shares o st s t h hne

/-- "identical" is identity of MEANING: the pool key is the CA, the file, the interval and the value of skip-verify,
    so settings that spell the same skip-verify value differently (unset / false / "false" / an unparsable string)
    are one entry. This is the model's key: the code's is the FNV-64a hash of the four fields written one after the
    other without separators (`hash()`, internal/tls.go), so there (CA "X", file "Y") and (CA "XY", no file) also
    share an entry. -/
theorem identical_means_same_key (o : Oracle) (s s' : Settings) :
    keyOf o s = keyOf o s' ↔
      s.caInline = s'.caInline ∧ s.caFile = s'.caFile ∧ boolStr o s.skip = boolStr o s'.skip ∧ s.interval = s'.interval := by
  simp [keyOf]

/-- after `WatchFile` for (settings, file) a watcher that had this id is in the table as dead, id and data unchanged.
    (That no OTHER watcher with the id stays alive is not in this statement; `watchFile_watchers` says it.) -/
theorem superseded_watcher_stops (st : State) (s : Key) (w : Watcher) (hw : w ∈ st.watchers) (hid : w.id = (s, s.caFile)) :
    ∃ w' ∈ (watchFile st s).1.watchers, w'.id = w.id ∧ w'.data = w.data ∧ w'.alive = false :=
  superseded_stops st s w hw hid

/-- two different settings naming the same CA file each keep their own live watcher -/
theorem every_user_of_a_file_keeps_its_watcher (st : State) (s : Key) (w : Watcher) (hw : w ∈ st.watchers)
    (hid : w.id ≠ (s, s.caFile)) : w ∈ (watchFile st s).1.watchers := by
  obtain ⟨new, hws⟩ := watchFile_watchers st s
  rw [hws]
  exact List.mem_append_left _ (List.mem_map.mpr ⟨w, hw, if_neg hid⟩)

/-- rotation: the callback of a watcher gives exactly its pool entry the new CA (system roots + new content) ... -/
theorem rotation_reaches_entry (o : Oracle) (pool : List (Key × Trust)) (s : Key) (t : Trust) (data : Str)
    (h : lookupPool pool s = some t) (hp : o.pemOk data = true) :
    lookupPool (updateCA o pool s data) s = some { t with extra := some data } := by
  simp [lookupPool_updateCA, h, hp]

/-- ... leaves every other entry alone, and ignores unparsable content -/
theorem rotation_leaves_others (o : Oracle) (pool : List (Key × Trust)) (s s' : Key) (data : Str) (hne : s' ≠ s) :
    lookupPool (updateCA o pool s data) s' = lookupPool pool s' := by
  simp [lookupPool_updateCA, hne]

theorem unparsable_rotation_ignored (o : Oracle) (pool : List (Key × Trust)) (s : Key) (data : Str)
    (hp : o.pemOk data = false) : updateCA o pool s data = pool := by
  simp [updateCA, hp]

/-- lock discipline of the pool and of the watcher table (regenerated): every access to `configs` / `watchers` holds
    the mutex -/
theorem pool_and_watchers_locked :
    (Generated.lockTable.filter fun e => (e.1 == "tlsConfigPool" || e.1 == "FileWatcher") && e.2.2.2.1 != "call").all
      (fun e => e.2.2.2.2) = true := by decide +kernel

/- Non-vacuity -/
def oX : Oracle := { parseBool := fun s => s == B "true", pemOk := fun s => s != B "junk" }
def sFile : Settings := { caInline := [], caFile := B "/ca", skip := .str (B "true"), interval := 5 }
def st1 : State := rewrite init (B "/ca") (some (B "CA-A"))
example : (load oX st1 sFile).2 = .cfg { insecure := false, extra := some (B "CA-A") } := by decide +kernel
example : lookupPool (tickAll oX (rewrite (load oX st1 sFile).1 (B "/ca") (some (B "CA-B")))).pool (keyOf oX sFile)
    = some { insecure := false, extra := some (B "CA-B") } := by decide +kernel
example : (load oX init { caInline := [], caFile := [], skip := .str (B "true"), interval := 0 }).2
    = .cfg { insecure := true, extra := none } := by decide +kernel

theorem no_hidden_state : InfraInventory := infra_inventory

/-- `BoolStrValue` AS TRANSLATED FROM THE GO SOURCE on this run is the model's `boolStr` with strconv.ParseBool as its
    oracle: verification is skipped only for the bool `true` or a string ParseBool reads as true (1 t T TRUE true True);
    unset, null, numbers, the empty string, the spellings of false and junk all mean "verify". Together with
    `skip_only_when_requested_and_no_ca` this is the "only when that is explicitly requested" of the statement. -/
theorem code_skip_verify_meaning (env : Go.Env) (v : Pb.Value) (o : Oracle) (ho : o.parseBool = goParseBool) :
    Code.BoolStrValue env v = .ok (boolStr o (skipOf v)) := by
  unfold Code.BoolStrValue skipOf
  cases hn : v.isNil
  · cases hk : v.Kind <;>
      simp [Pb.Value.GetStringValue, Pb.Value.GetBoolValue, hn, hk, Tls.boolStr, go_simp, ho, goParseBool, Go.ite_ok]
  · simp [Pb.Value.GetStringValue, Pb.Value.GetBoolValue, hn, Tls.boolStr, go_simp]

example : Code.BoolStrValue {} { Kind := .StringValue (B "true") } = .ok true := by decide +kernel
example : Code.BoolStrValue {} { Kind := .StringValue (B "yes") } = .ok false := by decide +kernel
example : Code.BoolStrValue {} { Kind := .StringValue (B "") } = .ok false := by decide +kernel
example : Code.BoolStrValue {} { isNil := true } = .ok false := by decide +kernel
example : Code.BoolStrValue {} { Kind := .BoolValue true } = .ok true := by decide +kernel

end AuthProps.C20

#print axioms AuthProps.C20.trust_decision
#print axioms AuthProps.C20.skip_only_when_requested_and_no_ca
#print axioms AuthProps.C20.identical_settings_share
#print axioms AuthProps.C20.identical_means_same_key
#print axioms AuthProps.C20.superseded_watcher_stops
#print axioms AuthProps.C20.every_user_of_a_file_keeps_its_watcher
#print axioms AuthProps.C20.rotation_reaches_entry
#print axioms AuthProps.C20.rotation_leaves_others
#print axioms AuthProps.C20.unparsable_rotation_ignored
#print axioms AuthProps.C20.pool_and_watchers_locked
#print axioms AuthProps.C20.no_hidden_state
#print axioms AuthProps.C20.code_skip_verify_meaning
