/-
  C11  Refresh keeps the session current or ends it.
-/
import AuthProofs.StateInventory
import AuthProofs.Ladder
import AuthProofs.CodeEquivOidc
namespace AuthProps.C11
open AuthModel AuthModel.Oidc

/-- the refresh request: made only right after the store returned expired tokens with a refresh token for the
    presented session, to the configured token endpoint, with THAT stored refresh token and the client credentials -/
theorem refresh_request (cfg : Cfg) (o : Oracles) (req : Req) (prev : Headers) :
    AllActs (IdpReqOK cfg o req) (process cfg o req prev) [] :=
  process_idp_requests cfg o req prev

/-- the merge: new values replace old, values the provider omitted are kept, a rotated refresh token replaces its
    predecessor, the expiry moves only when a positive expires_in is announced -/
theorem merge_spec (o : Oracles) (old : Tokens) (b : IdpBody) (now : Int) :
    mergeTokens o old b now =
      { idToken := if (o.attrs b.idToken).isSome then b.idToken else old.idToken,
        accessToken := if b.accessToken ≠ [] then b.accessToken else old.accessToken,
        refreshToken := if b.refreshToken ≠ [] then b.refreshToken else old.refreshToken,
        accessExp := if b.expiresIn > 0 then some (now + b.expiresIn * 1000000000 - 5) else old.accessExp } := by
  unfold mergeTokens accessExpiry nsPerSec
  by_cases h : b.expiresIn > 0 <;> simp [h]

theorem rotated_refresh_token_replaces (o : Oracles) (old : Tokens) (b : IdpBody) (now : Int) (h : b.refreshToken ≠ []) :
    (mergeTokens o old b now).refreshToken = b.refreshToken := by simp [mergeTokens, h]

theorem omitted_refresh_token_kept (o : Oracles) (old : Tokens) (b : IdpBody) (now : Int) (h : b.refreshToken = []) :
    (mergeTokens o old b now).refreshToken = old.refreshToken := by simp [mergeTokens, h]

/-- success: what is stored is the merged result, and it is what is forwarded (with C12: it is what later checks read) -/
theorem refresh_success_stores_and_forwards_merged (cfg : Cfg) (o : Oracles) (req : Req) (prev : Headers) :
    AllPaths (fun tr r => r.code = cOK → Justified cfg o req prev tr r) (process cfg o req prev) [] :=
  process_ok_justified cfg o req prev

/-- failure ends the session: the first action of `redirectToIDP(sid)` is RemoveSession(sid). (That the refresh branch goes
    through it on every outcome other than OK and a failed save is visible in `refresh_branch_outcomes` - the login shape
    requires the successful removal - and in the walk of `ladder_refreshPath`; it is not part of THIS statement.) -/
theorem refresh_failure_removes_session (cfg : Cfg) (o : Oracles) (req : Req) (sid : Str) (h : sid ≠ []) :
    ∃ k, redirectToIdp cfg o req sid = .act (.removeSession sid) k := by
  unfold redirectToIdp; simp [h]

theorem refresh_branch_outcomes (cfg : Cfg) (o : Oracles) (req : Req) (prev : Headers) :
    AllPaths (RespShape cfg o req prev) (process cfg o req prev) [] :=
  process_shapes cfg o req prev

example : (mergeTokens { attrs := fun _ => none, sigOK := fun _ => true, s256 := id }
    { idToken := B "old", accessToken := B "a0", refreshToken := B "r0", accessExp := some 7 }
    { idToken := B "junk", accessToken := [], refreshToken := B "r1", expiresIn := 0, tokenType := B "Bearer" } 100)
    = { idToken := B "old", accessToken := B "a0", refreshToken := B "r1", accessExp := some 7 } := by decide +kernel

/-- the two token-response validators AS TRANSLATED FROM THE GO SOURCE on this run never panic on a decoded
    (non-nil) answer and are the model's `validRefreshResponse` / `validNewResponse`: token_type is Bearer in any
    capitalisation, expires_in is not negative, and at login an access token is present when forwarding is configured -/
theorem code_response_validators (env : Go.Env) (c : Pb.OIDCConfig) (r : Pb.IdpTokensResponse) (cfg : Cfg)
    (hn : r.isNil = false) (hc : cfg.access.isSome = !c.GetAccessToken.isNil) :
    Code.isValidIDPRefreshTokenResponse env r = .ok (validRefreshResponse (bodyOf r)) ∧
    Code.isValidIDPNewTokensResponse env c r = .ok (validNewResponse cfg (bodyOf r)) :=
  ⟨code_validRefresh env r hn, code_validNew env c r cfg hn hc⟩

example : Code.isValidIDPRefreshTokenResponse {} { TokenType := B "bEARER", ExpiresIn := 0 } = .ok true := by decide +kernel
example : Code.isValidIDPRefreshTokenResponse {} { TokenType := B "", ExpiresIn := 5 } = .ok false := by decide +kernel

theorem no_hidden_state : CheckPathInventory := check_path_inventory

end AuthProps.C11

#print axioms AuthProps.C11.refresh_request
#print axioms AuthProps.C11.merge_spec
#print axioms AuthProps.C11.rotated_refresh_token_replaces
#print axioms AuthProps.C11.omitted_refresh_token_kept
#print axioms AuthProps.C11.refresh_success_stores_and_forwards_merged
#print axioms AuthProps.C11.refresh_failure_removes_session
#print axioms AuthProps.C11.refresh_branch_outcomes
#print axioms AuthProps.C11.code_response_validators
#print axioms AuthProps.C11.no_hidden_state
