/-
  C17  Configuration loading: accepted means safe to run, rejected means an error.
  Model: AuthModel.Config.load (the pipeline of LocalConfigFile.Validate after protojson decoding).
-/
import AuthProofs.CodeEquivInternal
import AuthProofs.StateInventory
import AuthProofs.Config
import AuthModel.Generated.Facts
import AuthProofs.CodeEquivUrls
namespace AuthProps.C17
open AuthModel AuthModel.Config

/-- ACCEPTED MEANS RESOLVED: for EVERY decoded document and every URL-parsing oracle, if loading succeeds then there
    is at least one chain, every chain has a name, at least one filter, a well-formed criterion and at most one OIDC
    filter, and every filter is `mock` or an `oidc` filter that is fully resolved (`Resolved`: openid scope, non-empty
    callback URI, colon-free non-empty client id, a client-secret source, an ID-token header, endpoints + key source
    or a discovery URI, a logout path that is non-empty, non-root and different from the callback path). No override
    and no untyped filter survives. -/
theorem accepted_resolved (u : UrlOracle) (doc : Doc) (l : Loaded) (h : load u doc = some l) :
    l.chains ≠ [] ∧
    ∀ c ∈ l.chains, c.name ≠ [] ∧ c.filters ≠ [] ∧ (c.filters.filter isOidcLike).length ≤ 1 ∧
      (∀ m, c.criterion = some m → m.header ≠ [] ∧ m.criterionSet = true ∧ m.value ≠ []) ∧
      ∀ f ∈ c.filters, (∃ a, f = .mock a) ∨ (∃ d, f = .oidc d ∧ Resolved u d) := by
  obtain ⟨_, _, hover, hne, _, _, _, _, hchains⟩ := load_some h
  refine ⟨hne, fun c hc => ?_⟩
  obtain ⟨hvc, c0, hc0, rs, hrs, hflags, rfl⟩ := hchains c hc
  unfold validChain at hvc
  simp only [Bool.and_eq_true, decide_eq_true_eq] at hvc
  obtain ⟨⟨⟨hname, hnf⟩, hcrit⟩, hfil⟩ := hvc
  refine ⟨hname, List.ne_nil_of_length_pos hnf, ?_, fun m hm => ?_, fun f hf => ?_⟩
  · -- resolving keeps the number of OIDC filters, and the override checks bounded it
    rw [resolved_count hrs hflags]
    have := List.all_eq_true.mp hover c0 hc0
    simp only [Bool.and_eq_true, decide_eq_true_eq] at this
    exact this.2
  · rw [show c0.criterion = some m from hm] at hcrit
    simp only [Bool.and_eq_true, decide_eq_true_eq] at hcrit
    exact ⟨hcrit.1.1, hcrit.1.2, hcrit.2⟩
  · obtain ⟨⟨f', b⟩, hfb, rfl⟩ := List.mem_map.mp hf
    cases (hflags _ hfb : b = true)
    obtain ⟨f0, _, hr0⟩ := mapM'_mem hrs _ hfb
    exact (resolveFilter_true hr0).2 (List.all_eq_true.mp hfil f' hf)

/-- overrides are merged over the default field by field (the fields `Config.merge_fieldwise` names) -/
theorem merge_fieldwise (d o : OidcDoc) :
    (merge d o).clientId = (if o.clientId ≠ [] then o.clientId else d.clientId) ∧
    (merge d o).callbackUri = (if o.callbackUri ≠ [] then o.callbackUri else d.callbackUri) ∧
    (merge d o).authorizationUri = (if o.authorizationUri ≠ [] then o.authorizationUri else d.authorizationUri) ∧
    (merge d o).tokenUri = (if o.tokenUri ≠ [] then o.tokenUri else d.tokenUri) ∧
    (merge d o).configurationUri = (if o.configurationUri ≠ [] then o.configurationUri else d.configurationUri) ∧
    (merge d o).cookiePrefix = (if o.cookiePrefix ≠ [] then o.cookiePrefix else d.cookiePrefix) ∧
    (merge d o).scopes = d.scopes ++ o.scopes ∧
    (o.secret = .unset → (merge d o).secret = d.secret) ∧
    (∀ s, o.secret = .literal s → (merge d o).secret = .literal s) :=
  Config.merge_fieldwise d o

/-- the merge invents no callback URI: that of a merged filter is the default's or the override's. (The URL checks run
    before the merge, on both: `validateUrls`; that the two passed them is not part of this statement.) -/
theorem merged_callback_was_checked (d o : OidcDoc) :
    (merge d o).callbackUri = d.callbackUri ∨ (merge d o).callbackUri = o.callbackUri := by
  rw [(Config.merge_fieldwise d o).2.1]
  split
  · exact Or.inr rfl
  · exact Or.inl rfl

theorem url_check_meaning (u : UrlOracle) (d : OidcDoc) (h : validateOidcUrls u d = true) (hc : d.callbackUri ≠ []) :
    ∃ p, u.parse d.callbackUri = some p ∧ isRootPath p = false := by
  unfold validateOidcUrls at h
  simp only [Bool.and_eq_true] at h
  -- of the eight checks: the callback URI parses unless empty; it is not both non-empty and root
  obtain ⟨⟨⟨⟨_, hcb⟩, _⟩, _⟩, hroot⟩ := h
  cases hp : u.parse d.callbackUri with
  | none => simp [hp, hc] at hcb
  | some p => exact ⟨p, rfl, by simpa [hp, hc] using hroot⟩

/-- the openid scope is always present after defaulting, and no configured scope is lost -/
theorem scope_defaulting (d : OidcDoc) :
    scopeOpenid ∈ (applyDefaults d).scopes ∧ (∀ s ∈ d.scopes, s ∈ (applyDefaults d).scopes) :=
  applyDefaults_scopes d

/-- the three early exits of `Validate` (equal ports, a URL check that fails, an override check that fails) answer an
    error. The later stages reject as well (`untyped_filter_rejected` with `accepted_resolved`, the second example
    below); this statement does not list them. -/
theorem rejected_is_error (u : UrlOracle) (doc : Doc)
    (h : doc.listenPort = doc.healthPort ∨ validateUrls u doc = false ∨ overrideChecks doc = false) :
    load u doc = none := by
  cases hl : load u doc with
  | none => rfl
  | some l =>
    obtain ⟨hp, hu, ho, _⟩ := load_some hl
    rcases h with h | h | h
    · exact absurd h hp
    · rw [h] at hu; cases hu
    · rw [h] at ho; cases ho

/-- a filter without a type (formerly a nil dereference inside Validate) is carried through the merge untouched and
    rejected by the final validation -/
theorem untyped_filter_rejected (u : UrlOracle) (dflt : Option OidcDoc) :
    resolveFilter u dflt .none = some (.none, true) ∧ validFilter .none = false := ⟨rfl, rfl⟩

theorem scope_constant_matches_source : scopeOpenid = Generated.scopeOIDC := rfl

/- Non-vacuity: a complete document is accepted and resolved -/
def okOidc : OidcDoc :=
  { authorizationUri := B "a", tokenUri := B "t", callbackUri := B "https://h/cb", jwks := .inline (B "k"), clientId := B "c",
    secret := .literal (B "s"), idToken := some ⟨B "authorization", B "Bearer"⟩, logout := some ⟨B "/logout", []⟩ }
def okDoc : Doc :=
  { chains := [{ name := B "n", criterion := none, filters := [.mock true, .oidc okOidc] }], listenAddressIsIP := true,
    listenPort := 8080, healthPort := 10004, logLevelOk := true, default := none }
def uX : UrlOracle := { parse := fun s => if s = B "https://h/cb" then some (B "/cb") else some [], redisOk := fun _ => true }
example : (load uX okDoc).isSome = true := by decide +kernel
example : load uX { okDoc with chains := [{ name := B "n", criterion := none, filters := [.none] }] } = none := by decide +kernel

/-! ### the URL checks of the loader, about the code as translated from the source (validateURL, hasRootPath,
    validateOIDCConfigURLs of internal/config.go) -/

/-- THE CODE's `validateOIDCConfigURLs`: for EVERY configuration (nil and half-filled ones included) it returns - it
    cannot panic, although `hasRootPath` dereferences the result of `url.Parse` unchecked: its call comes after
    `validateURL` accepted the same string - and it accepts exactly what `urlsAccepted` says: every configured URL
    parses, go-redis accepts the Redis URI after the `tcp://` rewriting, and the callback URI is not a root path.
    An accepted configuration comes back with the Redis URI rewritten and nothing else changed. -/
theorem code_url_validation (env : Go.Env) (c : Pb.OIDCConfig) (hcoh : CodeEquiv.UrlParseCoherent env) :
    ∃ e c', Code.validateOIDCConfigURLs env c = .ok (e, c') ∧ e.isNil = CodeEquiv.urlsAccepted env c ∧
      (e.isNil = true → c' = CodeEquiv.rewritten c) :=
  CodeEquiv.code_validate_urls env c hcoh

/-- accepted means safe to run, as far as URLs go: the callback URI parses and has a non-root path (the callback
    matcher and the logout comparison read it), the token and authorization endpoints parse, and the store factory will
    be handed a Redis URI that go-redis accepts -/
theorem code_accepted_urls_resolved (env : Go.Env) (c : Pb.OIDCConfig) (hcoh : CodeEquiv.UrlParseCoherent env) :
    ∀ e c', Code.validateOIDCConfigURLs env c = .ok (e, c') → e.isNil = true →
      (c.GetCallbackUri = [] ∨ ((env.urlParseOracle c.GetCallbackUri).2 = false ∧
         Config.isRootPath (env.urlParseOracle c.GetCallbackUri).1.Path = false)) ∧
      (c.GetTokenUri = [] ∨ (env.urlParseOracle c.GetTokenUri).2 = false) ∧
      (c.GetAuthorizationUri = [] ∨ (env.urlParseOracle c.GetAuthorizationUri).2 = false) ∧
      (CodeEquiv.redisAfter c = [] ∨ env.redisParseURLOracle (CodeEquiv.redisAfter c) = false) ∧
      c'.GetRedisSessionStoreConfig.GetServerUri = CodeEquiv.redisAfter c := by
  intro e c' h he
  obtain ⟨e2, c2, h2, k1, k2⟩ := CodeEquiv.code_validate_urls env c hcoh
  rw [h2] at h; cases h
  have hacc : CodeEquiv.urlsAccepted env c = true := by rw [← k1]; exact he
  have hc' := k2 he
  unfold CodeEquiv.urlsAccepted CodeEquiv.urlOk at hacc
  simp only [Bool.and_eq_true, Bool.or_eq_true, beq_iff_eq, Bool.not_eq_true', Bool.and_eq_false_iff, bne_eq_false_iff_eq] at hacc
  obtain ⟨⟨⟨⟨⟨⟨⟨_, a2⟩, _⟩, a4⟩, a5⟩, _⟩, a7⟩, a8⟩ := hacc
  refine ⟨?_, a2, a4, a7, ?_⟩
  · rcases a5 with h0 | h0
    · exact Or.inl h0
    · exact a8.imp id fun h8 => ⟨h0, h8⟩
  · rw [hc']; exact CodeEquiv.rewritten_serverUri c

/-- the hypotheses are satisfiable and the verdicts are the expected ones: a root callback is rejected, `tcp://` is
    rewritten before go-redis sees the URI -/
example :
    let env : Go.Env := { urlParseOracle := fun s => ({ Path := if s == B "https://app/" then B "/" else B "/cb" }, false),
                          redisParseURLOracle := fun s => !(Str.hasPrefix s (B "redis://")) }
    CodeEquiv.UrlParseCoherent env ∧
    (Code.validateOIDCConfigURLs env { CallbackUri := B "https://app/" }).map (·.1.isNil) = .ok false ∧
    (Code.validateOIDCConfigURLs env { CallbackUri := B "https://app/cb", RedisSessionStoreConfig := { isNil := false, ServerUri := B "tcp://r:6379" } }).map
        (fun r => (r.1.isNil, r.2.GetRedisSessionStoreConfig.GetServerUri)) = .ok (true, B "redis://r:6379") := by
  refine ⟨fun s _ => rfl, by decide +kernel, by decide +kernel⟩


theorem no_hidden_state : InfraInventory := infra_inventory

/-- `isCookieNameToken` and `isRootPath` AS TRANSLATED FROM THE GO SOURCE on this run are the loader model's rules: a
    cookie-name prefix is accepted iff every byte is visible US-ASCII and none of the RFC 2616 separators `()<>@,;:\\\"/[]?={}`
    (the counting loop never indexes out of range); a path is root iff it is `/` or empty. That the per-byte test
    of the Go source (two comparisons and `strings.IndexByte` into the separator string) is the model's is `badTokenByte_spec`. -/
theorem code_loader_rules (env : Go.Env) (s : Str) :
    Code.isCookieNameToken env s = .ok (Config.isCookieNameToken s) ∧ Code.isRootPath env s = .ok (Config.isRootPath s) :=
  ⟨code_isCookieNameToken env s, code_isRootPath env s⟩

example : Code.isCookieNameToken {} (B "my-app_2") = .ok true := by decide +kernel
example : Code.isCookieNameToken {} (B "x; Domain=e.org") = .ok false := by rw [B_ofList]; decide +kernel
example : Code.isCookieNameToken {} (B "") = .ok true := by decide +kernel

end AuthProps.C17

#print axioms AuthProps.C17.accepted_resolved
#print axioms AuthProps.C17.merged_callback_was_checked
#print axioms AuthProps.C17.url_check_meaning
#print axioms AuthProps.C17.merge_fieldwise
#print axioms AuthProps.C17.scope_defaulting
#print axioms AuthProps.C17.rejected_is_error
#print axioms AuthProps.C17.untyped_filter_rejected
#print axioms AuthProps.C17.scope_constant_matches_source
#print axioms AuthProps.C17.no_hidden_state
#print axioms AuthProps.C17.code_loader_rules
#print axioms AuthProps.C17.code_url_validation
#print axioms AuthProps.C17.code_accepted_urls_resolved
