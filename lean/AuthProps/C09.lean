/-
  C09  Logout is final.
-/
import AuthProofs.StateInventory
import AuthProofs.Ladder
import AuthProofs.CodeEquivOidc
import AuthModel.Oidc.Sched
import AuthProofs.RedisCmd
import AuthProofs.Discovery
import AuthProofs.Finality
namespace AuthProps.C09
open AuthModel AuthModel.Oidc

/-- THE LOGOUT ANSWER. On the logout path: with a session cookie the first and only action is RemoveSession(sid); if it
    succeeds the answer is the 302 to the configured (or discovered, see C17/loadWellKnownConfig) end-session URI with
    the cookie expired; if it fails the answer is the session error - never the success redirect. Without a cookie the
    redirect is sent at once. -/
theorem logout_answer (cfg : Cfg) (o : Oracles) (req : Req) (path uri : Str)
    (hh : req.http = true) (hl : cfg.logout = some (path, uri)) (hp : pathOf req.path = path) :
    process cfg o req =
      if sessionIdFromCookie cfg req.cookie = [] then .ret (logoutResp cfg uri)
      else
        .act (.removeSession (sessionIdFromCookie cfg req.cookie)) fun r =>
          match r with
          | .done true => .ret (logoutResp cfg uri)
          | _ => .ret sessErr := by
  unfold process
  simp only [hh, matchesLogout, hl, hp, Bool.not_true, Bool.false_eq_true, if_false, beq_self_eq_true, if_true]
  by_cases hs : sessionIdFromCookie cfg req.cookie = []
  · simp [hs]
  · simp only [hs, ne_eq]
    rfl

theorem logout_answer_shape (cfg : Cfg) (uri : Str) :
    logoutResp cfg uri =
      { code := cUnauthenticated,
        http := .denied { status := 302,
                          headers := stdHeaders ++ [(B "location", uri),
                                                    (B "set-cookie", setCookie (cookieName cfg) (B "deleted") (some 0))] } } := rfl

/-- every answer that is the logout redirect was preceded, when a session id was presented, by a successful
    RemoveSession for it (part of the answer catalogue) -/
theorem logout_only_after_removal (cfg : Cfg) (o : Oracles) (req : Req) (prev : Headers) :
    AllPaths (RespShape cfg o req prev) (process cfg o req prev) [] :=
  process_shapes cfg o req prev

/-- SEQUENTIAL FINALITY, the three facts it rests on:
    (a) removal erases everything stored under the id (both stores refine this map, C12); -/
theorem removal_erases (m : SpecMap) (sid : Str) :
    Spec.getTok (Spec.remove m sid) sid = none ∧ Spec.getAuth (Spec.remove m sid) sid = none := by
  simp

/-- (b) an OK requires that the store returned tokens for the presented id during that very check; -/
theorem ok_requires_tokens_read (cfg : Cfg) (o : Oracles) (req : Req) (prev : Headers) :
    AllPaths (fun tr r => r.code = cOK →
      ∃ t, (Act.getTok (sessionIdFromCookie cfg req.cookie), ARes.tok (.ok (some t))) ∈ tr) (process cfg o req prev) [] :=
  process_ok_reads_tokens cfg o req prev

/-- (c) within one check, tokens are written under an id only after the store returned login state (callback) or tokens
    (refresh) for that same id in that check; login state is written only under a freshly generated id. (The conclusion -
    once nothing is stored under `sid`, a SEQUENTIAL history cannot bring it back without a new login under a new id - is the
    argument from (a)-(c); it is not stated as a theorem. For interleavings see `finality_characterisation`.) -/
theorem writes_need_prior_read (cfg : Cfg) (o : Oracles) (req : Req) (prev : Headers) :
    AllActs (WriteOK cfg o req) (process cfg o req prev) [] :=
  process_writes cfg o req prev

/-! ### interleavings: the recorded finding, as a kernel-checked witness in the `Sched` semantics

  A: a check on an expired session holding a refresh token.  L: the logout for the same session.
  Schedule:  A reads the tokens | L removes the session and answers | A refreshes, validates, stores, answers OK |
  B (a later request with the old cookie) is answered OK. -/

def cfgW : Cfg :=
  { clientId := B "c", clientSecret := B "s", callbackUri := B "https://h/cb", cbScheme := B "https",
    cbHost := B "h", cbPort := [], cbPath := B "/cb", authUri := B "https://i/a", tokenUri := B "https://i/t",
    scopes := [B "openid"], cookiePrefix := B "p", idHeader := B "authorization", idPreamble := [],
    access := none, logout := some (B "/logout", B "https://i/out") }
def oW : Oracles :=
  { attrs := fun s => if s = B "T0" then some { exp := 100, aud := [B "c"], nonce := .absent }
                      else if s = B "T1" then some { exp := 1000, aud := [B "c"], nonce := .absent } else none,
    sigOK := fun _ => true, s256 := fun v => v }
def cookieW : Str := B "__Host-p-authservice-session-id-cookie=s"
def appW : Req := { http := true, scheme := B "https", host := B "h", path := B "/app", cookie := cookieW }
def logoutW : Req := { http := true, scheme := B "https", host := B "h", path := B "/logout", cookie := cookieW }
def w0 : StoreW := { kind := 0, mem := (MemStore.empty 0 0).setTok 0 (B "s") { idToken := B "T0", refreshToken := B "r0" } }
def scA : Script := { idp := .body { idToken := B "T1", accessToken := [], refreshToken := B "r1", expiresIn := 0, tokenType := B "Bearer" } }

def tA0 : Thread := (Thread.spawn 200 scA (process cfgW oW appW)).1
def tL0 : Thread := (Thread.spawn 200 {} (process cfgW oW logoutW)).1
def s1 := tA0.step w0 200                -- A: GetTokenResponse
def s2 := tL0.step s1.1 200              -- L: RemoveSession, answers
def s3 := s1.2.1.step s2.1 200           -- A: token endpoint
def s4 := s3.2.1.step s3.1 200           -- A: GetAuthorizationState
def s5 := s4.2.1.step s4.1 200           -- A: key lookup
def s6 := s5.2.1.step s5.1 200           -- A: SetTokenResponse, answers
def probeB := runProg s6.1 200 {} (process cfgW oW appW) [] []

/-- the logout was answered as successful ... -/
theorem resurrection_logout_answered : s2.2.1.answer = some (logoutResp cfgW (B "https://i/out")) := by decide +kernel
/-- ... then the in-flight check is answered OK ... -/
theorem resurrection_inflight_ok : (s6.2.1.answer.map (·.code)) = some cOK := by decide +kernel
/-- ... and so is a later request with the logged-out cookie: C09 does not hold for this schedule
    (known finding C09-refresh-after-logout; the harness replays exactly this schedule on the real handler). -/
theorem logout_resurrection : probeB.2.1.code = cOK := by decide +kernel

/-! ### every interleaving: the characterisation behind the recorded finding -/

/-- FINALITY, FOR EVERY SCHEDULE, UP TO ONE SHAPE. Any number of checks of one filter run concurrently, interleaved
    in any way at the granularity of store calls, on a store that answers like the session map (sessions may also expire,
    failed writes may or may not have been applied, reads may miss). If the store acknowledged `RemoveSession(sid)` -
    the logout is answered only after that (`logout_only_after_removal`) - and LATER returns tokens for `sid` - an OK
    needs that (`ok_requires_tokens_read`) - then in between some thread wrote tokens under `sid`, and that same thread
    had read `sid` BEFORE the removal: tokens (a refresh in flight across the logout: the recorded finding
    C09-refresh-after-logout) or login state (a login in flight: its callback completes a new interactive login).
    Nothing else can bring a removed session back: whoever starts reading after the removal finds nothing, and login
    state is only written under ids the generator has just produced (`hfresh`: none of them is `sid`, see C06). -/
theorem finality_characterisation (cfg : Cfg) (o : Oracles) (reqOf : Nat → Req) (prevOf : Nat → Headers)
    (m0 mEnd : SpecMap) (pre mid post : List Ev) (eR eB : Ev) (sid : Str) (tB : Tokens)
    (hruns : ∀ t, IsRun (process cfg o (reqOf t) (prevOf t)) (threadTrace (pre ++ eR :: (mid ++ eB :: post)) t))
    (hstore : Reach m0 (pre ++ eR :: (mid ++ eB :: post)) mEnd)
    (hfresh : ∀ e ∈ pre ++ eR :: (mid ++ eB :: post), e.act = .gen → ∀ n s v, e.res ≠ .gen sid n s v)
    (hR : eR.act = .removeSession sid ∧ eR.res = .done true)
    (hB : eB.act = .getTok sid ∧ eB.res = .tok (.ok (some tB))) :
    ∃ mid1 eP mid2 t, mid = mid1 ++ eP :: mid2 ∧ eP.act = .setTok sid t ∧
      (∀ e ∈ mid1, isSetTok sid e.act = false) ∧
      ∃ q ∈ pre, q.tid = eP.tid ∧ isReadSome sid q :=
  late_tokens_shape ⟨hruns, hstore, hfresh⟩ hR hB

/- Non-vacuity: the witness schedule above, as a global execution of three threads (A = 1, L = 2, B = 3), satisfies
   every hypothesis of `finality_characterisation`. -/
def preW : List Ev := evsOf 1 (Thread.spawn 200 scA (process cfgW oW appW)).2 ++ evsOf 1 s1.2.2
def eRW : Ev := { tid := 2, act := .removeSession (B "s"), res := .done true }
def midW : List Ev := evsOf 1 s3.2.2 ++ evsOf 1 s4.2.2 ++ evsOf 1 s5.2.2 ++ evsOf 1 s6.2.2
def eBW : Ev := { tid := 3, act := .getTok (B "s"),
                  res := .tok (.ok (some { idToken := B "T1", accessToken := [], refreshToken := B "r1", accessExp := none })) }
def trW : List Ev := preW ++ eRW :: (midW ++ eBW :: [])
def m0W : SpecMap := Spec.setTok (fun _ => none) (B "s") { idToken := B "T0", refreshToken := B "r0" } 0
def reqW : Nat → Req := fun t => if t = 2 then logoutW else appW
example : IsRun (process cfgW oW (reqW 1) []) (threadTrace trW 1) ∧ IsRun (process cfgW oW (reqW 2) []) (threadTrace trW 2) ∧
    IsRun (process cfgW oW (reqW 3) []) (threadTrace trW 3) := by decide +kernel
example : (trW.filter fun e => e.tid ≠ 1 ∧ e.tid ≠ 2 ∧ e.tid ≠ 3) = [] := by decide +kernel   -- no other thread acts
example : ∃ mEnd, Reach m0W trW mEnd := reach_of_replay (by decide +kernel)
example : eRW.act = .removeSession (B "s") ∧ eRW.res = .done true := ⟨rfl, rfl⟩

/-! ### removal under command-level Redis faults; the end-session URI under endpoint discovery -/
section FaultsAndDiscovery
open RedisCmd Redis

/-- REDIS, COMMAND LEVEL: RemoveSession reports success only if its DEL was answered - and then the key is gone. Any
    failure of the DEL (applied on the server or not) is reported as an error, so the handler (logout_answer) answers
    the session error and not the logout redirect. -/
theorem redis_removal_reported_faithfully (now : Int) (fs : List Fault) (h : RHash) :
    ((run now fs removeP h).faulted = true → (run now fs removeP h).res = false) ∧
    ((run now fs removeP h).res = true → (run now fs removeP h).state = {}) :=
  ⟨removeP_strict now fs h, removeP_ok_erases now fs h⟩

/-- ... and nothing is served from a removed key, whatever fails later: a read of the empty key returns no tokens -/
theorem redis_nothing_after_removal (parses : Str → Bool) (abs idle now now' : Int) (fs fs' : List Fault) (h : RHash)
    (hok : (run now fs removeP h).res = true) (t : Tokens) :
    (run now' fs' (getTokP parses abs idle now') (visible now' (run now fs removeP h).state)).res ≠ .ok (some t) := by
  rw [removeP_ok_erases now fs h hok]
  intro hc
  have := (getTokP_sound parses abs idle now' fs' _ t hc).2.1
  simp [visible] at this

open Discovery in
/-- DISCOVERED END-SESSION URI. When the handler could be built for a configuration with a logout section, the
    redirect uri it will answer logouts with (logout_answer) is the configured one if there is one, and otherwise the
    `end_session_endpoint` of the discovery document - which is then not empty; a configuration that offers neither is
    refused when the handler is built. -/
theorem logout_uri_configured_or_discovered (cache cache' : Cache) (c r : DCfg) (ans : FetchAns) (req : Bool)
    (path uri : Str) (hl : c.logout = some (path, uri)) (h : load cache c ans = (cache', .ok r, req)) :
    (uri ≠ [] → r.logout = some (path, uri)) ∧
    (uri = [] → c.configurationUri ≠ [] →
      ∃ d, lookup cache' c.configurationUri = some d ∧ d.endSessionEndpoint ≠ [] ∧ r.logout = some (path, d.endSessionEndpoint)) := by
  by_cases hu : c.configurationUri = []
  · rw [no_discovery cache c ans hu] at h
    simp only [Prod.mk.injEq, Except.ok.injEq] at h
    obtain ⟨_, rfl, _⟩ := h
    exact ⟨fun _ => hl, fun _ hne => absurd hu hne⟩
  · obtain ⟨d, hc, hp, _⟩ := load_ok hu h
    obtain ⟨_, _, _, _, _, hlo⟩ := patch_ok hp
    obtain ⟨h1, h2⟩ := hlo path uri hl
    exact ⟨h1, fun he _ => ⟨d, hc, (h2 he).1, (h2 he).2⟩⟩

open Discovery in
/-- a logout section without redirect uri and a document without `end_session_endpoint`: the handler is not built -/
theorem discovery_refuses_logout_without_uri (cache : Cache) (c : DCfg) (d : WellKnown) (ans : FetchAns) (path : Str)
    (hu : c.configurationUri ≠ []) (hl : c.logout = some (path, [])) (he : d.endSessionEndpoint = [])
    (hdoc : lookup cache c.configurationUri = some d ∨ (lookup cache c.configurationUri = none ∧ ans = .doc d)) :
    (load cache c ans).2.1 = .error .missingLogoutRedirect := by
  -- cached or just fetched, the document goes through `patch`, which refuses it
  have hp : patch c d = .error .missingLogoutRedirect := by simp [patch, hl, he]
  rcases hdoc with hc | ⟨hc, rfl⟩
  · rw [load_cached cache c d ans hu hc, hp]
  · rw [load_fetched cache c d hu hc, hp]
end FaultsAndDiscovery

/-- `matchesLogoutPath` and `matchesCallbackPath` AS TRANSLATED FROM THE GO SOURCE on this run are the model's path
    matchers: the logout branch is entered exactly when logout is configured and the PATH COMPONENT of the request
    target equals the configured logout path (query and fragment play no part); the callback matcher dereferences the
    parsed callback URI, which is non-nil (`hun`) because configuration validation accepted it. -/
theorem code_path_matchers (env : Go.Env) (c : Pb.OIDCConfig) (h : Pb.AttributeContext_HttpRequest) (cfg : Cfg) (req : Req)
    (hl : cfg.logout = if c.GetLogout.isNil then none else some (c.GetLogout.Path, c.GetLogout.RedirectUri))
    (hp : req.path = h.GetPath) (hh : req.host = h.GetHost)
    (u : Go.URL) (e : Bool) (hu : env.urlParseOracle c.GetCallbackUri = (u, e)) (hun : u.isNil = false)
    (h1 : cfg.cbScheme = u.Scheme) (h2 : cfg.cbHost = u.hostname) (h3 : cfg.cbPort = u.port) (h4 : cfg.cbPath = u.escapedPath) :
    Code.matchesLogoutPath env c h = .ok (matchesLogout cfg req) ∧
    Code.matchesCallbackPath env c h = .ok (matchesCallback cfg req) :=
  ⟨code_matchesLogout env c h cfg req hl hp, code_matchesCallback env c h cfg req u e hu hun h1 h2 h3 h4 hp hh⟩

example : Code.matchesLogoutPath {} { Logout := { isNil := false, Path := B "/logout" } } { Path := B "/logout?x=1#f" } = .ok true := by rw [B_ofList, B_ofList]; decide +kernel
example : Code.matchesLogoutPath {} { Logout := { isNil := false, Path := B "/logout" } } { Path := B "/logout/x" } = .ok false := by rw [B_ofList, B_ofList]; decide +kernel

theorem no_hidden_state : CheckPathInventory := check_path_inventory

end AuthProps.C09

#print axioms AuthProps.C09.logout_answer
#print axioms AuthProps.C09.logout_answer_shape
#print axioms AuthProps.C09.logout_only_after_removal
#print axioms AuthProps.C09.removal_erases
#print axioms AuthProps.C09.ok_requires_tokens_read
#print axioms AuthProps.C09.writes_need_prior_read
#print axioms AuthProps.C09.resurrection_logout_answered
#print axioms AuthProps.C09.resurrection_inflight_ok
#print axioms AuthProps.C09.logout_resurrection
#print axioms AuthProps.C09.redis_removal_reported_faithfully
#print axioms AuthProps.C09.redis_nothing_after_removal
#print axioms AuthProps.C09.logout_uri_configured_or_discovered
#print axioms AuthProps.C09.discovery_refuses_logout_without_uri
#print axioms AuthProps.C09.finality_characterisation
#print axioms AuthProps.C09.code_path_matchers
#print axioms AuthProps.C09.no_hidden_state
