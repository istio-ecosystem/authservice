/-
  C03  Login completes: one pass through the IdP ends in OK on the original URL.
  `replay prog answers` runs a check against a fixed list of environment answers; the three steps of a login are three
  such runs whose answers are what an honest world gives: the store returns what was stored (C12), the provider is
  standards-compliant (`CompliantAnswer`), the key source works.
-/
import AuthProofs.CodeEquivOidc
import AuthProofs.StateInventory
import AuthProofs.Login
import AuthProofs.Cookie
namespace AuthProps.C03
open AuthModel AuthModel.Oidc

/-- LOGIN COMPLETES. For every configuration, every originally requested URL, every generated (sid, nonce, state,
    verifier), every compliant token response (any capitalisation of Bearer, with or without expires_in, with or
    without refresh token, string or array audience containing the client id):
    (1) the first request is redirected to the provider with the new session cookie and the login state stored;
    (2) the callback carrying the issued state and any code makes exactly one token request, clears the login state,
        stores the provider's tokens and redirects to exactly the URL stored at (1);
    (3) the original URL presented with the cookie is answered OK with the provider's tokens injected. -/
theorem login_completes (cfg : Cfg) (o : Oracles) (req1 req2 : Req) (sid nonce state verifier code : Str)
    (b : IdpBody) (now now' : Int) (params : List (Str × Str)) (at_ : TokAttrs)
    -- step 1: an HTTP request without session cookie, not on the logout path
    (h1 : req1.http = true) (h1lo : matchesLogout cfg req1 = false) (h1c : sessionIdFromCookie cfg req1.cookie = [])
    -- step 2: the browser follows the provider's redirect to the callback URI with the cookie it was given
    (h2 : req2.http = true) (h2lo : matchesLogout cfg req2 = false) (h2c : sessionIdFromCookie cfg req2.cookie = sid)
    (hs : sid ≠ []) (h2cb : matchesCallback cfg req2 = true)
    (hq : parseQuery (queryOf req2.path) = (params, true)) (hne : params.isEmpty = false)
    (hst : valuesGet params (B "state") = state) (hsne : state ≠ [])
    (hcode : valuesGet params (B "code") = code) (hcne : code ≠ [])
    (hb : CompliantAnswer cfg o b nonce)
    -- step 3: the original request again, now with the cookie (it is not the callback), while the tokens are valid
    (req3 : Req) (h3 : req3.http = true) (h3lo : matchesLogout cfg req3 = false) (h3c : sessionIdFromCookie cfg req3.cookie = sid)
    (h3cb : matchesCallback cfg req3 = false)
    (hat : o.attrs b.idToken = some at_) (hexp : now' ≤ at_.exp)
    (hacc : b.expiresIn > 0 → now' ≤ now + b.expiresIn * 1000000000 - 5) :
    let a : AuthState := { state := state, nonce := nonce, requestedUrl := requestedUrl req1, codeVerifier := verifier }
    let t : Tokens := { idToken := b.idToken, accessToken := b.accessToken, refreshToken := b.refreshToken,
                        accessExp := accessExpiry now b.expiresIn }
    replay (process cfg o req1) [.gen sid nonce state verifier, .done true] =
      some (redirectWithCookie (authLocation cfg o state nonce verifier) (setCookie (cookieName cfg) sid none),
            [.gen, .setAuth sid a]) ∧
    replay (process cfg o req2) [.auth (.ok (some a)), .idp (.body b), .keys true, .done true, .time now, .done true] =
      some (found (requestedUrl req1),
            [.getAuth sid, .idp (.code cfg.tokenUri code cfg.callbackUri verifier cfg.clientId cfg.clientSecret),
             .keys, .clearAuth sid, .now, .setTok sid t]) ∧
    replay (process cfg o req3) [.tok (.ok (some t)), .time now'] = some (allow cfg [] t, [.getTok sid, .now]) := by
  intro a t
  refine ⟨first_visit cfg o req1 [] sid nonce state verifier h1 h1lo h1c, ?_, ?_⟩
  · exact callback_completes cfg o req2 [] sid code a b now params h2 h2lo h2c hs h2cb hq hne hst hsne hcode hcne hb
  · exact authenticated_request_ok cfg o req3 [] sid t at_ now' h3 h3lo h3c hs h3cb hat
      (stored_tokens_valid_while_provider_says cfg at_ b now now' hexp hacc)

/-- NO RE-AUTHENTICATION WHILE VALID: any number of further requests - at any later times inside the lifetime the
    provider announced - are answered OK without any token request and without a redirect -/
theorem no_reauth_while_valid (cfg : Cfg) (o : Oracles) (sid : Str) (hs : sid ≠ []) (t : Tokens) (at_ : TokAttrs)
    (hat : o.attrs t.idToken = some at_) (later : List (Req × Int))
    (hall : ∀ x ∈ later, x.1.http = true ∧ matchesLogout cfg x.1 = false ∧ sessionIdFromCookie cfg x.1.cookie = sid ∧
        matchesCallback cfg x.1 = false ∧ tokensExpired cfg at_ t x.2 = false) :
    ∀ x ∈ later, replay (process cfg o x.1) [.tok (.ok (some t)), .time x.2] = some (allow cfg [] t, [.getTok sid, .now]) := by
  intro x hx
  obtain ⟨h1, h2, h3, h4, h5⟩ := hall x hx
  exact authenticated_request_ok cfg o x.1 [] sid t at_ x.2 h1 h2 h3 hs h4 hat h5

/-- a token response WITHOUT expires_in does not expire the access token (the defect repaired in dc8f8fa) -/
theorem no_expires_in_no_expiry (now : Int) : accessExpiry now 0 = none := by simp [accessExpiry]

/-- the cookie the browser was given is read back as the same session id (token-charset cookie prefix) -/
theorem cookie_read_back (cfg : Cfg) (sid : Str) (hp : ∀ b ∈ cfg.cookiePrefix, tokByte b = true)
    (hsid : ∀ b ∈ sid, tokByte b = true) :
    sessionIdFromCookie cfg (cookieName cfg ++ [61] ++ sid) = sid :=
  sessionId_roundtrip (cookieName_tok hp) hsid

/-- the provider may answer with any capitalisation of the token type -/
example : isBearer (B "Bearer") = true ∧ isBearer (B "bearer") = true ∧ isBearer (B "BEARER") = true ∧ isBearer (B "mac") = false := by rw [B_ofList, B_ofList, B_ofList, B_ofList]; decide +kernel

theorem no_hidden_state : CheckPathInventory := check_path_inventory

/-- ON THE CODE AS TRANSLATED FROM /repo: the session cookie the service sets on the login redirect
    (`generateSetCookieHeader` with the negative timeout) starts with `name=sid;`, and a browser that sends `name=sid` back
    is recognised: `getSessionIDFromCookie` (with `DecodeCookiesHeader`) returns exactly that session id. Without this a
    login could never complete - the callback would look like a first visit. -/
theorem code_cookie_read_back (env : Go.Env) (c : Pb.OIDCConfig) (cfg : Cfg) (sid : Str)
    (h : cfg.cookiePrefix = c.GetCookieNamePrefix) (hp : ∀ b ∈ cfg.cookiePrefix, tokByte b = true)
    (hsid : ∀ b ∈ sid, tokByte b = true) :
    Code.getSessionIDFromCookie env [(B "cookie", cookieName cfg ++ [61] ++ sid)] c = .ok sid := by
  have h1 := code_sessionIdFromCookie env [(B "cookie", cookieName cfg ++ [61] ++ sid)] c cfg h
  have h2 : Go.Map.get [(B "cookie", cookieName cfg ++ [61] ++ sid)] (B "cookie") = cookieName cfg ++ [61] ++ sid := by
    simp [Go.Map.get, List.find?]
  rw [h1, h2, cookie_read_back cfg sid hp hsid]

end AuthProps.C03

#print axioms AuthProps.C03.login_completes
#print axioms AuthProps.C03.no_reauth_while_valid
#print axioms AuthProps.C03.no_expires_in_no_expiry
#print axioms AuthProps.C03.cookie_read_back
#print axioms AuthProps.C03.no_hidden_state
#print axioms AuthProps.C03.code_cookie_read_back
