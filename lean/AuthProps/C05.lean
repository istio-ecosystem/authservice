/-
  C05  Session id renewed at every login redirect; cookie host-locked and protected.
-/
import AuthProofs.StateInventory
import AuthProofs.Ladder
import AuthProofs.CodeEquivOidc
import AuthProofs.CodeEquivInternal
import AuthProofs.StrLemmas
import AuthModel.Generated.Facts
import AuthModel.Config
namespace AuthProps.C05
open AuthModel AuthModel.Oidc AuthModel.Str

/-- the clause of the answer catalogue (`RespShape.login`) this property reads: every login redirect carries the id the
    generator just produced, under which the login state was stored successfully, and - if the request presented a session id -
    only after RemoveSession for the presented id succeeded. (That no other catalogued answer sets a non-expired cookie is
    visible in the shapes, not stated.) -/
theorem redirect_renews (cfg : Cfg) (o : Oracles) (req : Req) (prev : Headers) :
    AllPaths (RespShape cfg o req prev) (process cfg o req prev) [] :=
  process_shapes cfg o req prev

/-- tokens and login state are only ever written under ids the service itself issued: login state under the freshly
    generated id (the one sent in the Set-Cookie of that answer), tokens under the presented cookie id after the
    login state stored under that id matched (callback) or after the store returned tokens for it (refresh) -/
theorem writes_only_under_issued (cfg : Cfg) (o : Oracles) (req : Req) (prev : Headers) :
    AllActs (WriteOK cfg o req) (process cfg o req prev) [] :=
  process_writes cfg o req prev

/-- the cookie name always starts with `__Host-` -/
theorem cookie_name_host_prefix (cfg : Cfg) : hasPrefix (cookieName cfg) (B "__Host-") = true := by
  unfold cookieName
  split
  · simp only [cookiePrefixConst, List.append_assoc]
    exact Str.hasPrefix_append (B "__Host-") _
  · decide +kernel

/-- THE COOKIE NAME IS ONE COOKIE NAME. For every prefix the configuration loader accepts (`isCookieNameToken`, part of
    `Resolved` in C17 since c10ccd6) the whole name `__Host-<prefix>-authservice-session-id-cookie` consists of
    cookie-name characters only: no `;`, `=`, space or control character can end the name early or smuggle an
    attribute (Domain, Path ...) into the Set-Cookie header. -/
theorem cookie_name_is_token (cfg : Cfg) (h : Config.isCookieNameToken cfg.cookiePrefix = true) :
    Config.isCookieNameToken (cookieName cfg) = true := by
  unfold cookieName
  split
  · unfold Config.isCookieNameToken at *
    simp only [List.all_append, Bool.and_eq_true]
    exact ⟨⟨by rw [cookiePrefixConst, B_ofList]; decide +kernel, h⟩, by rw [cookieSuffixConst, B_ofList]; decide +kernel⟩
  · rw [defaultCookieName, B_ofList]; decide +kernel

/-- shape of every Set-Cookie: name=value; HttpOnly; Secure; SameSite=Lax; Path=/ (+ Max-Age=0 on logout); no Domain -/
theorem set_cookie_shape (name value : Str) :
    setCookie name value none = name ++ [61] ++ value ++ B "; HttpOnly; Secure; SameSite=Lax; Path=/" ∧
    setCookie name value (some 0) = name ++ [61] ++ value ++ B "; HttpOnly; Secure; SameSite=Lax; Path=/; Max-Age=0" := by
  constructor <;> simp [setCookie, encodeCookie, cookieDirectives] <;> (repeat rw [B_ofList]) <;> decide +kernel

/-- the directive list and the name parts of the model ARE the ones in the source (regenerated on every run) -/
theorem directives_match_source : cookieDirectives = Generated.cookieDirectives := rfl
theorem name_parts_match_source :
    cookiePrefixConst = Generated.prefixCookieName ∧ cookieSuffixConst = Generated.suffixCookieName ∧
    defaultCookieName = Generated.defaultCookieName := ⟨rfl, rfl, rfl⟩

/-- logout expires the cookie -/
theorem logout_expires_cookie (cfg : Cfg) (uri : Str) :
    logoutResp cfg uri = redirectWithCookie uri (setCookie (cookieName cfg) (B "deleted") (some 0)) := rfl

/-! ### The cookie functions as translated from /repo (AuthModel/Generated/CodeOidc.lean, CodeHttp.lean) -/

/-- `getCookieName` AS TRANSLATED FROM THE GO SOURCE on this run never panics and returns a name that starts with
    `__Host-`, for every configuration (a nil one included). -/
theorem code_cookie_name_host_prefix (env : Go.Env) (c : Pb.OIDCConfig) :
    ∃ n, Code.getCookieName env c = .ok n ∧ hasPrefix n (B "__Host-") = true := by
  let cfg : Cfg :=
    { clientId := [], clientSecret := [], callbackUri := [], cbScheme := [], cbHost := [], cbPort := [],
      cbPath := [], authUri := [], tokenUri := [], scopes := [], cookiePrefix := c.GetCookieNamePrefix, idHeader := [],
      idPreamble := [], access := none, logout := none }
  exact ⟨_, code_getCookieName env c cfg rfl, cookie_name_host_prefix cfg⟩

/-- `generateSetCookieHeader` (with `getCookieDirectives` and `EncodeCookieHeader`) AS TRANSLATED never panics and
    builds exactly `name=value; HttpOnly; Secure; SameSite=Lax; Path=/`, followed by `; Max-Age=0` for the zero timeout
    the logout answer uses and by nothing for the negative timeout the login redirect uses: no Domain, whatever the
    name and the value are. -/
theorem code_set_cookie_shape (env : Go.Env) (name value : Str) :
    Code.generateSetCookieHeader env name value (-1) =
      .ok (name ++ [61] ++ value ++ B "; HttpOnly; Secure; SameSite=Lax; Path=/") ∧
    Code.generateSetCookieHeader env name value 0 =
      .ok (name ++ [61] ++ value ++ B "; HttpOnly; Secure; SameSite=Lax; Path=/; Max-Age=0") := by
  have h := set_cookie_shape name value
  constructor
  · rw [code_setCookie, ← h.1]; rfl
  · rw [code_setCookie, ← h.2]; rfl

/-- `getSessionIDFromCookie` (with `DecodeCookiesHeader`) AS TRANSLATED never panics - whatever bytes the Cookie
    header holds - and returns what the model's `sessionIdFromCookie` returns: the value of the LAST well-formed
    `name=value` item whose name is the filter's cookie name. -/
theorem code_session_id_from_cookie (env : Go.Env) (headers : Go.Map) (c : Pb.OIDCConfig) (cfg : Cfg)
    (h : cfg.cookiePrefix = c.GetCookieNamePrefix) :
    Code.getSessionIDFromCookie env headers c = .ok (sessionIdFromCookie cfg (Go.Map.get headers (B "cookie"))) :=
  code_sessionIdFromCookie env headers c cfg h

example : Code.getSessionIDFromCookie {} [(B "cookie", B "a=1; __Host-authservice-session-id-cookie=s1; b=2")] {} = .ok (B "s1") := by rw [B_ofList, B_ofList, B_ofList]; decide +kernel
example : Code.generateSetCookieHeader {} (B "n") (B "v") 0 = .ok (B "n=v; HttpOnly; Secure; SameSite=Lax; Path=/; Max-Age=0") := by rw [B_ofList, B_ofList, B_ofList]; decide +kernel

theorem no_hidden_state : CheckPathInventory := check_path_inventory

/-- On the translated code: a prefix the loader's `isCookieNameToken` accepts gives a cookie name that is a token
    (`cookie_name_is_token`), so nothing in the prefix can end the name or inject an attribute into the Set-Cookie. -/
theorem code_accepted_prefix_is_token (env : Go.Env) (cfg : Cfg)
    (h : Code.isCookieNameToken env cfg.cookiePrefix = .ok true) : Config.isCookieNameToken (cookieName cfg) = true := by
  rw [code_isCookieNameToken] at h
  exact cookie_name_is_token cfg (by simpa using h)

end AuthProps.C05

#print axioms AuthProps.C05.redirect_renews
#print axioms AuthProps.C05.writes_only_under_issued
#print axioms AuthProps.C05.cookie_name_host_prefix
#print axioms AuthProps.C05.cookie_name_is_token
#print axioms AuthProps.C05.set_cookie_shape
#print axioms AuthProps.C05.directives_match_source
#print axioms AuthProps.C05.name_parts_match_source
#print axioms AuthProps.C05.logout_expires_cookie
#print axioms AuthProps.C05.code_cookie_name_host_prefix
#print axioms AuthProps.C05.code_set_cookie_shape
#print axioms AuthProps.C05.code_session_id_from_cookie
#print axioms AuthProps.C05.no_hidden_state
#print axioms AuthProps.C05.code_accepted_prefix_is_token
