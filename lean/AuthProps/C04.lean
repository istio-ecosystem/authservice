/-
  C04  Login-flow binding: state, PKCE and client auth tie the code to its session.
-/
import AuthProofs.StateInventory
import AuthProofs.Ladder
import AuthProofs.Finality
import AuthModel.Oidc.Sched
namespace AuthProps.C04
open AuthModel AuthModel.Oidc

/-- EVERY code exchange, on every path of every check in every environment (hence under every interleaving of any
    number of checks: a thread's own actions are a path of its tree), is made by a request on the callback path whose
    FIRST `state` value, parsed with the ported url.ParseQuery (no parse error), is non-empty and equals the `State`
    the store returned for the session named by THAT request's cookie; it carries that session's stored PKCE verifier,
    the configured redirect URI, the first `code` value, and the client id and secret; nothing else precedes it. -/
theorem exchange_requires_state (cfg : Cfg) (o : Oracles) (req : Req) (prev : Headers) :
    AllActs (IdpReqOK cfg o req) (process cfg o req prev) [] :=
  process_idp_requests cfg o req prev

/-- the PKCE challenge sent in the redirect that issued the session is S256 of the verifier stored for it -/
theorem challenge_matches (cfg : Cfg) (o : Oracles) (state nonce verifier : Str) :
    (B "code_challenge", o.s256 verifier) ∈ authParams cfg o state nonce verifier ∧
    (B "code_challenge_method", B "S256") ∈ authParams cfg o state nonce verifier := by
  simp [authParams]

/-- the login state is stored only under the freshly generated id, with the generated state, nonce and verifier -/
theorem state_stored_under_issued_id (cfg : Cfg) (o : Oracles) (req : Req) (prev : Headers) :
    AllActs (WriteOK cfg o req) (process cfg o req prev) [] :=
  process_writes cfg o req prev

/-- A SUCCESSFUL EXCHANGE CONSUMES THE LOGIN STATE (store level): after ClearAuthorizationState the stored login state
    is gone, whatever else the session holds; a later callback for that session reads `none` ... -/
theorem clear_consumes (m : SpecMap) (id : Str) : Spec.getAuth (Spec.clearAuth m id) id = none := by
  rw [Spec.getAuth_clearAuth, if_pos rfl]

/-- ... and a callback that reads no login state answers 400 "session expired" WITHOUT any token request and without
    storing anything. (One that reads a DIFFERENT state makes no token request either: `exchange_requires_state`.) -/
theorem callback_without_state_no_exchange (cfg : Cfg) (o : Oracles) (req : Req) (sid : Str) :
    ∀ k, retrieveTokens cfg o req sid = .act (.getAuth sid) k → k (.auth (.ok none)) = .ret expired400 := by
  intro k hk
  unfold retrieveTokens at hk
  generalize parseQuery (queryOf req.path) = pq at hk
  simp only at hk
  -- behind the three guards (each a `.ret`, not an action) the continuation of `GetAuthorizationState` is the model's own
  by_cases hq : (!pq.2) = true
  · rw [if_pos hq] at hk; cases hk
  rw [if_neg hq] at hk
  by_cases hne : pq.1.isEmpty = true
  · rw [if_pos hne] at hk; cases hk
  rw [if_neg hne] at hk
  by_cases hsc : valuesGet pq.1 (B "state") = [] ∨ valuesGet pq.1 (B "code") = []
  · rw [if_pos hsc] at hk; cases hk
  rw [if_neg hsc] at hk
  injection hk with _ hk
  subst hk
  rfl

/-- callback query robustness: a query that does not parse (bad escape, `;` separator), has no parameters, or lacks a
    non-empty `state` or `code` is answered InvalidArgument before any store or provider action -/
theorem query_robust (cfg : Cfg) (o : Oracles) (req : Req) (sid : Str)
    (h : (parseQuery (queryOf req.path)).2 = false ∨ (parseQuery (queryOf req.path)).1.isEmpty = true ∨
         valuesGet (parseQuery (queryOf req.path)).1 (B "state") = [] ∨
         valuesGet (parseQuery (queryOf req.path)).1 (B "code") = []) :
    retrieveTokens cfg o req sid = .ret (deny cInvalidArgument) := by
  unfold retrieveTokens
  generalize parseQuery (queryOf req.path) = pq at h ⊢
  simp only
  -- each of the three guards answers InvalidArgument, and `h` says that one of them fires
  by_cases hq : (!pq.2) = true
  · rw [if_pos hq]
  rw [if_neg hq]
  by_cases hne : pq.1.isEmpty = true
  · rw [if_pos hne]
  rw [if_neg hne]
  simp only [Bool.not_eq_true'] at hq
  exact if_pos (by simpa [hq, hne] using h)

/-- keys are case sensitive and the first value wins -/
example : valuesGet (parseQuery (B "State=x&state=a&state=b")).1 (B "state") = B "a" := by decide +kernel
example : (parseQuery (B "code=1;state=2")).2 = false := by decide +kernel
example : (parseQuery (B "code=%zz")).2 = false := by decide +kernel

/-! ### every interleaving: the login state is single-use up to the overlap window -/

/-- CONSUMPTION, FOR EVERY SCHEDULE. Any number of checks of one filter, interleaved in any way on a store that answers
    like the session map. Once the store has acknowledged `ClearAuthorizationState(sid)` - a callback does that after its
    exchange and validation succeeded (`clear_consumes`) - the ONLY callbacks that can still send a code to the token
    endpoint for `sid` are those that had already read the login state BEFORE the clearing: the overlap window of
    concurrent callbacks, in which the statement is silent. A callback that starts afterwards finds no login state - nobody
    writes login state under an existing id (`hfresh`, C06) - and makes no exchange: a state is single-use. -/
theorem consumed_state_no_later_exchange (cfg : Cfg) (o : Oracles) (reqOf : Nat → Req) (prevOf : Nat → Headers)
    (m0 mEnd : SpecMap) (pre mid post : List Ev) (eC eX : Ev) (sid uri code ru v cid cs : Str)
    (hruns : ∀ t, IsRun (process cfg o (reqOf t) (prevOf t)) (threadTrace (pre ++ eC :: (mid ++ eX :: post)) t))
    (hstore : Reach m0 (pre ++ eC :: (mid ++ eX :: post)) mEnd)
    (hfresh : ∀ e ∈ pre ++ eC :: (mid ++ eX :: post), e.act = .gen → ∀ n s v, e.res ≠ .gen sid n s v)
    (hC : eC.act = .clearAuth sid ∧ eC.res = .done true)
    (hX : eX.act = .idp (.code uri code ru v cid cs)) (hsid : sessionIdFromCookie cfg (reqOf eX.tid).cookie = sid) :
    ∃ q ∈ pre, q.tid = eX.tid ∧ ∃ a, q.act = .getAuth sid ∧ q.res = .auth (.ok (some a)) :=
  exchange_after_consumption_shape ⟨hruns, hstore, hfresh⟩ hC hX hsid

/- Non-vacuity: two callbacks of one login overlap - both read the login state, the first exchanges, validates, clears and
   stores, then the second exchanges. The global execution satisfies every hypothesis of the theorem. -/
def cfgX : Cfg :=
  { clientId := B "c", clientSecret := B "s", callbackUri := B "https://h/cb", cbScheme := B "https",
    cbHost := B "h", cbPort := [], cbPath := B "/cb", authUri := B "https://i/a", tokenUri := B "https://i/t",
    scopes := [B "openid"], cookiePrefix := B "p", idHeader := B "authorization", idPreamble := [],
    access := none, logout := some (B "/logout", B "https://i/out") }
def cbX : Req := { http := true, scheme := B "https", host := B "h", path := B "/cb?code=K&state=ST",
                   cookie := B "__Host-p-authservice-session-id-cookie=s" }
def wX : StoreW := { kind := 0, mem := (MemStore.empty 0 0).setAuth 0 (B "s")
                       { state := B "ST", nonce := B "N", requestedUrl := B "https://h/app", codeVerifier := B "V" } }
def oX : Oracles :=
  { attrs := fun s => if s = B "T1" then some { exp := 1000, aud := [B "c"], nonce := .str (B "N") } else none,
    sigOK := fun _ => true, s256 := fun v => v }
def scX : Script := { idp := .body { idToken := B "T1", accessToken := [], refreshToken := [], expiresIn := 0, tokenType := B "Bearer" } }
def tX : Thread := (Thread.spawn 200 scX (process cfgX oX cbX)).1
def x1 := tX.step wX 200           -- callback 1 reads the login state
def y1 := tX.step x1.1 200         -- callback 2 reads it too (overlap)
def x2 := x1.2.1.step y1.1 200     -- 1: code exchange
def x3 := x2.2.1.step x2.1 200     -- 1: key lookup
def x4 := x3.2.1.step x3.1 200     -- 1: ClearAuthorizationState
def x5 := x4.2.1.step x4.1 200     -- 1: SetTokenResponse, answers
def preX : List Ev := evsOf 1 x1.2.2 ++ evsOf 2 y1.2.2 ++ evsOf 1 x2.2.2 ++ evsOf 1 x3.2.2
def eCX : Ev := { tid := 1, act := .clearAuth (B "s"), res := .done true }
def midX : List Ev := evsOf 1 (x4.2.2.drop 1) ++ evsOf 1 x5.2.2
def eXX : Ev := { tid := 2, act := .idp (.code (B "https://i/t") (B "K") (B "https://h/cb") (B "V") (B "c") (B "s")), res := .idp scX.idp }
def trX : List Ev := preX ++ eCX :: (midX ++ eXX :: [])
def m0X : SpecMap := Spec.setAuth (fun _ => none) (B "s") { state := B "ST", nonce := B "N", requestedUrl := B "https://h/app", codeVerifier := B "V" } 0
example : x4.2.2.head? = some (Act.clearAuth (B "s"), ARes.done true) := by decide +kernel
example : IsRun (process cfgX oX cbX) (threadTrace trX 1) ∧ IsRun (process cfgX oX cbX) (threadTrace trX 2) := by decide +kernel
example : ∃ mEnd, Reach m0X trX mEnd := reach_of_replay (by decide +kernel)
example : sessionIdFromCookie cfgX cbX.cookie = B "s" := by decide +kernel

theorem no_hidden_state : CheckPathInventory := check_path_inventory

end AuthProps.C04

#print axioms AuthProps.C04.exchange_requires_state
#print axioms AuthProps.C04.challenge_matches
#print axioms AuthProps.C04.state_stored_under_issued_id
#print axioms AuthProps.C04.clear_consumes
#print axioms AuthProps.C04.callback_without_state_no_exchange
#print axioms AuthProps.C04.query_robust
#print axioms AuthProps.C04.consumed_state_no_later_exchange
#print axioms AuthProps.C04.no_hidden_state
