/-
  C13  Redirects are well-formed and restore the originally requested URL.
  Url.lean ports Go's QueryEscape / QueryUnescape / ParseQuery / Values.Encode.
-/
import AuthProofs.StateInventory
import AuthProofs.Ladder
import AuthProofs.UrlLemmas
import AuthModel.Generated.Facts
import AuthProofs.CodeEquivResp
namespace AuthProps.C13
open AuthModel AuthModel.Oidc AuthModel.Str

/-- every byte string - reserved characters, non-ASCII, anything - survives escape then unescape -/
theorem unescape_escape (s : Str) : queryUnescape (queryEscape s) = some s := by
  fun_induction queryEscape s with
  | case1 => rfl
  | case2 s ih => rw [queryUnescape_cons_ne 43 _ (by decide), ih]; rfl
  | case3 b s _ hu ih =>
    have := unreserved_not_special hu
    rw [queryUnescape_cons_ne b _ this.1, ih]; simp [this.2]
  | case4 b s _ _ ih =>
    obtain ⟨hh, hl, hb⟩ := nibbles b
    simp [queryUnescape, upperHex_nibble _ hh, upperHex_nibble _ hl, hb, ih]

/-- an escaped value contains none of `&`, `=`, `;`, `#`, `?`, space: it cannot break out of its parameter -/
theorem escape_clean (s : Str) : ∀ b ∈ queryEscape s, b ≠ 38 ∧ b ≠ 61 ∧ b ≠ 59 ∧ b ≠ 35 ∧ b ≠ 63 ∧ b ≠ 32 :=
  fun b hb => escSafe_not_sep b (queryEscape_safe s b hb)

/-- the login Location is the configured authorization endpoint, then `?` - or `&` when the endpoint already has a
    query of its own, which is thereby retained - then exactly the eight parameters, keys sorted as Values.Encode does -/
theorem authorization_location (cfg : Cfg) (o : Oracles) (state nonce verifier : Str) :
    authLocation cfg o state nonce verifier =
      cfg.authUri ++ (if containsByte 63 cfg.authUri then [38] else [63]) ++
      encodeSorted [(B "client_id", cfg.clientId), (B "code_challenge", o.s256 verifier),
        (B "code_challenge_method", B "S256"), (B "nonce", nonce), (B "redirect_uri", cfg.callbackUri),
        (B "response_type", B "code"), (B "scope", Str.join [32] cfg.scopes), (B "state", state)] := rfl

/-- each parameter decodes back to its exact value -/
theorem parameter_roundtrip (k v : Str) :
    (queryUnescape (queryEscape k), queryUnescape (queryEscape v)) = (some k, some v) := by
  simp [unescape_escape]

/-- what is stored at the login redirect as the URL to return to is scheme://host + path [+ ?query] of that request -/
theorem requested_url_stored (cfg : Cfg) (o : Oracles) (req : Req) (prev : Headers) :
    AllActs (WriteOK cfg o req) (process cfg o req prev) [] :=
  process_writes cfg o req prev

theorem requested_url_def (req : Req) :
    requestedUrl req = req.scheme ++ B "://" ++ req.host ++ req.path ++ (if req.query ≠ [] then [63] ++ req.query else []) := rfl

/-- after a successful login the Location is, byte for byte, the `requestedUrl` member of the login state the store
    returned for the presented session (with C12: the one stored by the redirect that created it) -/
theorem post_login_location (cfg : Cfg) (o : Oracles) (req : Req) (prev : Headers) :
    AllPaths (RespShape cfg o req prev) (process cfg o req prev) [] :=
  process_shapes cfg o req prev

/-- the two builders of 302 answers (`found`, `redirectWithCookie`) start with the no-cache headers -/
theorem redirects_no_cache (loc cookie : Str) :
    (∃ rest, (match (found loc).http with | .denied d => d.headers | _ => []) = stdHeaders ++ rest) ∧
    (∃ rest, (match (redirectWithCookie loc cookie).http with | .denied d => d.headers | _ => []) = stdHeaders ++ rest) :=
  ⟨⟨_, rfl⟩, ⟨_, rfl⟩⟩

theorem no_cache_headers_match_source : stdHeaders = Generated.stdHeaders := rfl

example : queryEscape (B "a b&c=d/~?") = B "a+b%26c%3Dd%2F~%3F" := by rw [B_ofList, B_ofList]; decide +kernel

/-! ### the same, about the code as translated from the source (Generated/CodeOidc.lean) -/

/-- THE CODE's redirect answers: `newDenyResponse` then `setRedirect` (then, with a new session or at logout,
    `setSetCookieHeader`) then `setDenyResponse(…, Unauthenticated)` - composed as the call sites of oidc.go compose them -
    cannot panic on a non-nil response and ARE the model's `found` / `redirectWithCookie`: HTTP 302, the no-cache pair
    first, then Location (then Set-Cookie) -/
theorem code_redirects_no_cache (env : Go.Env) (resp : Pb.CheckResponse) (loc cookie : Str) (hr : resp.isNil = false) :
    (∃ r, (do let d ← Code.newDenyResponse env
              let d ← Code.setRedirect env d loc
              Code.setDenyResponse env resp d 16) = .ok r ∧
      CodeEquiv.respOf r = { code := cUnauthenticated, http := .denied { status := 302, headers := stdHeaders ++ [(B "location", loc)] } }) ∧
    (∃ r, (do let d ← Code.newDenyResponse env
              let d ← Code.setRedirect env d loc
              let d ← Code.setSetCookieHeader env d cookie
              Code.setDenyResponse env resp d 16) = .ok r ∧
      CodeEquiv.respOf r = { code := cUnauthenticated, http := .denied { status := 302, headers := stdHeaders ++ [(B "location", loc), (B "set-cookie", cookie)] } }) :=
  ⟨CodeEquiv.code_found env resp loc hr, CodeEquiv.code_redirectWithCookie env resp loc cookie hr⟩

/-- the package-level `standardResponseHeaders` of the code is the no-cache pair -/
theorem code_standard_headers : CodeEquiv.hdrsOf Code.standardResponseHeaders = [(B "cache-control", B "no-cache"), (B "pragma", B "no-cache")] := rfl

/-- `setRedirect` only appends: whatever headers the denial had, it still has -/
theorem code_redirect_keeps_headers (env : Go.Env) (d : Pb.DeniedHttpResponse) (loc : Str) (hd : d.isNil = false) :
    ∀ d', Code.setRedirect env d loc = .ok d' → ∀ h ∈ (CodeEquiv.deniedOf d).headers, h ∈ (CodeEquiv.deniedOf d').headers :=
  CodeEquiv.code_redirect_keeps_headers env d loc hd


theorem no_hidden_state : CheckPathInventory := check_path_inventory

end AuthProps.C13

#print axioms AuthProps.C13.unescape_escape
#print axioms AuthProps.C13.escape_clean
#print axioms AuthProps.C13.authorization_location
#print axioms AuthProps.C13.parameter_roundtrip
#print axioms AuthProps.C13.requested_url_stored
#print axioms AuthProps.C13.requested_url_def
#print axioms AuthProps.C13.post_login_location
#print axioms AuthProps.C13.redirects_no_cache
#print axioms AuthProps.C13.no_cache_headers_match_source
#print axioms AuthProps.C13.no_hidden_state
#print axioms AuthProps.C13.code_redirects_no_cache
#print axioms AuthProps.C13.code_standard_headers
#print axioms AuthProps.C13.code_redirect_keeps_headers
