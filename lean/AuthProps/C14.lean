/-
  C14  No credential reaches the user agent.
-/
import AuthProofs.StateInventory
import AuthProofs.Ladder
import AuthProofs.CodeEquivResp
namespace AuthProps.C14
open AuthModel AuthModel.Oidc

/-- the closed list of answers; the only data in a non-OK answer are: fixed constants, the gRPC code, the logout URI,
    the cookie name and the freshly generated session id, the authorization Location (a function of public
    configuration, the generated state and nonce, and the S256 CHALLENGE of the verifier), and the URL the browser
    itself asked for at login -/
theorem answers_are_catalogued (cfg : Cfg) (o : Oracles) (req : Req) (prev : Headers) :
    AllPaths (RespShape cfg o req prev) (process cfg o req prev) [] :=
  process_shapes cfg o req prev

/-- the login Location does not depend on the client secret, and on the verifier only through its S256 challenge -/
theorem location_independent_of_secret (cfg : Cfg) (o : Oracles) (secret' state nonce verifier : Str) :
    authLocation { cfg with clientSecret := secret' } o state nonce verifier = authLocation cfg o state nonce verifier := rfl

theorem location_uses_verifier_only_via_challenge (cfg : Cfg) (o : Oracles) (state nonce v v' : Str)
    (h : o.s256 v = o.s256 v') : authLocation cfg o state nonce v = authLocation cfg o state nonce v' := by
  simp [authLocation, authParams, h]

/-- the fixed denials carry no data at all -/
theorem fixed_denials_constant (c : Nat) :
    deny c = { code := c, http := .denied { headers := stdHeaders } } ∧
    sessErr = { code := cUnauthenticated, http := .denied { body := sessionErrorBody } } := ⟨rfl, rfl⟩

/-- non-interference of the secret: the whole interaction tree of a check is the same for two configurations that
    differ only in the client secret, except for the credentials inside the two token-endpoint requests (which go to
    the IdP, not to the browser). STATED HERE FOR THE LOGOUT ANSWER ONLY; that the other answer shapes of `RespShape` do
    not read `cfg.clientSecret` is visible in their definitions (`allow`, `authLocation`, `cookieName`), not a theorem. -/
theorem cookie_and_logout_independent_of_secret (cfg : Cfg) (secret' uri : Str) :
    logoutResp { cfg with clientSecret := secret' } uri = logoutResp cfg uri := rfl

/-- an OK answer adds exactly the token headers of C02 (after what an earlier filter left), no body -/
theorem ok_adds_only_tokens (cfg : Cfg) (prev : Headers) (t : Tokens) :
    allow cfg prev t = { code := cOK, message := [], http := .ok (prev ++ encodeTokens cfg t) } := rfl

/-! ### the same, about the code as translated from the source (Generated/CodeOidc.lean) -/

/-- THE CODE's fixed denials, composed as the call sites of oidc.go compose them, are the model's `deny code` and `sessErr`:
    the gRPC code, the no-cache pair or the fixed body, nothing else - and whatever HTTP part an earlier filter left on
    the response is replaced, not merged -/
theorem code_fixed_denials (env : Go.Env) (resp : Pb.CheckResponse) (code : Int) (hr : resp.isNil = false) (hc : 0 ≤ code) :
    (∃ r, (do let d ← Code.newDenyResponse env; Code.setDenyResponse env resp d code) = .ok r ∧
      CodeEquiv.respOf r = { code := code.toNat, http := .denied { headers := stdHeaders } }) ∧
    (∃ r, (do let d ← Code.newSessionErrorResponse env; Code.setDenyResponse env resp d 16) = .ok r ∧
      CodeEquiv.respOf r = { code := cUnauthenticated, http := .denied { body := sessionErrorBody } }) :=
  ⟨CodeEquiv.code_deny env resp code hr, CodeEquiv.code_sessErr env resp hr⟩

/-- THE CODE's OK answer: gRPC OK, no body, and the headers are what an earlier filter left followed by exactly the
    token headers of `encodeTokensToHeaders` -/
theorem code_ok_adds_only_tokens (env : Go.Env) (o : Pb.OidcHandler) (resp : Pb.CheckResponse) (t : Pb.TokenResponse) (cfg : Cfg) (tok : Tokens)
    (hr : resp.isNil = false) (ho : o.isNil = false) (hc : o.config.isNil = false) (ht : t.isNil = false)
    (hid : cfg.idHeader = o.config.IdToken.GetHeader) (hpre : cfg.idPreamble = o.config.IdToken.GetPreamble)
    (hacc : cfg.access = if o.config.AccessToken.isNil then none else some (o.config.AccessToken.Header, o.config.AccessToken.Preamble))
    (h1 : tok.idToken = t.IDToken) (h2 : tok.accessToken = t.AccessToken) :
    ∃ r, Code.allowResponse env o resp t = .ok r ∧
      CodeEquiv.respOf r = { code := cOK, message := [], http := .ok (CodeEquiv.prevOk resp ++ encodeTokens cfg tok) } :=
  CodeEquiv.code_allow env o resp t cfg tok hr ho hc ht hid hpre hacc h1 h2

example : (Code.allowResponse {} { config := { IdToken := { isNil := false, Header := AuthModel.B "authorization", Preamble := AuthModel.B "Bearer" } } }
      Pb.CheckResponse.new { IDToken := AuthModel.B "tok" }).map CodeEquiv.respOf
    = .ok { code := cOK, http := .ok [(AuthModel.B "authorization", AuthModel.B "Bearer tok")] } := by rw [B_ofList, B_ofList, B_ofList, B_ofList]; decide +kernel


theorem no_hidden_state : CheckPathInventory := check_path_inventory

end AuthProps.C14

#print axioms AuthProps.C14.answers_are_catalogued
#print axioms AuthProps.C14.location_independent_of_secret
#print axioms AuthProps.C14.location_uses_verifier_only_via_challenge
#print axioms AuthProps.C14.fixed_denials_constant
#print axioms AuthProps.C14.cookie_and_logout_independent_of_secret
#print axioms AuthProps.C14.ok_adds_only_tokens
#print axioms AuthProps.C14.no_hidden_state
#print axioms AuthProps.C14.code_fixed_denials
#print axioms AuthProps.C14.code_ok_adds_only_tokens
