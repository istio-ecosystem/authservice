/-
  C08  First matching chain judges; every filter in it must allow; unmatched is denied.
-/
import AuthProofs.StateInventory
import AuthProofs.Chain
import AuthProofs.CodeEquiv
import AuthProofs.CodeEquivCheck
namespace AuthProps.C08
open AuthModel AuthModel.Str

/-- `Check`'s chain loop computes the reference evaluator `judge` (the first matching chain found by `find?` in place
    of the loop; the filter loop `runFilters` is common to both), for every list of chains (any length), any flag and
    any header map. -/
theorem check_eq_judge (triggered au : Bool) (chains : List Chain) (hdrs : Headers) :
    check triggered au chains hdrs =
      if triggered then judge au chains hdrs else some allowResp := by
  unfold check
  cases triggered <;> simp [runChains_eq_judge]

/-- The first chain (in configuration order) whose criterion is satisfied judges the request; whatever
    chains follow it are never consulted (the answer does not depend on `post`). -/
theorem first_match_wins (au : Bool) (hdrs : Headers) (pre post : List Chain) (c : Chain)
    (hpre : ∀ x ∈ pre, chainMatches x.criterion hdrs = false)
    (hc : chainMatches c.criterion hdrs = true) :
    check true au (pre ++ c :: post) hdrs =
      if c.filters.isEmpty then some allowResp else runFilters c.filters Resp.empty := by
  show runChains au hdrs (pre ++ c :: post) = _
  rw [runChains_eq_judge, judge, List.find?_append, List.find?_eq_none.mpr (by simpa using hpre)]
  simp [hc]

/-- A chain without criterion matches everything. -/
theorem no_criterion_matches (hdrs : Headers) : chainMatches none hdrs = true := rfl

/-- The criterion is equality with the header value when an equality is configured, otherwise prefix. -/
theorem criterion_semantics (m : Match) (hdrs : Headers) :
    chainMatches (some m) hdrs =
      if m.equality ≠ [] then headerValue hdrs (toLowerAscii m.header) == m.equality
      else hasPrefix (headerValue hdrs (toLowerAscii m.header)) m.pfx := rfl

/-- The header is looked up under the lower-cased configured name, so the case in which the name is
    configured is irrelevant. -/
theorem configured_name_case_irrelevant (m : Match) (hdrs : Headers) :
    chainMatches (some { m with header := toLowerAscii m.header }) hdrs = chainMatches (some m) hdrs := by
  simp [chainMatches, toLowerAscii_idem]

/-- Allowed only if every filter of the judging chain allowed it. -/
theorem all_must_allow (fs : List Filter) (r out : Resp)
    (h : runFilters fs r = some out) (hok : out.code = cOK) : AllAllow fs r out :=
  runFilters_ok_allAllow fs r out h hok

/-- Evaluation stops at the first denial, whose response is returned as is; the filters after it are not
    run (the result does not depend on `post`). -/
theorem stops_at_first_denial (pre post : List Filter) (f : Filter) (r r' d : Resp)
    (hpre : AllAllow pre r r') (hf : f r' = some d) (hd : d.code ≠ cOK) :
    runFilters (pre ++ f :: post) r = some d := by
  simp [runFilters_append _ hpre, runFilters, hf, hd]

/-- A handler error gives an error and no verdict. -/
theorem handler_error_no_verdict (pre post : List Filter) (f : Filter) (r r' : Resp)
    (hpre : AllAllow pre r r') (hf : f r' = none) :
    runFilters (pre ++ f :: post) r = none := by
  simp [runFilters_append _ hpre, runFilters, hf]

/-- When no chain matches, the request is denied with PermissionDenied unless unmatched requests are
    explicitly allowed. -/
theorem default_deny (au : Bool) (chains : List Chain) (hdrs : Headers)
    (h : ∀ x ∈ chains, chainMatches x.criterion hdrs = false) :
    check true au chains hdrs = some (if au then allowResp else noChainResp) := by
  show runChains au hdrs chains = _
  rw [runChains_eq_judge, judge, List.find?_eq_none.mpr (by simpa using h)]

/-- A request that does not trigger authentication is allowed without consulting any chain. -/
theorem untriggered_allowed (au : Bool) (chains : List Chain) (hdrs : Headers) :
    check false au chains hdrs = some allowResp := rfl

/- Non-vacuity -/
def adminChain : Chain := { criterion := some ⟨B "X-Tenant", B "admin", []⟩, filters := [mockFilter true, mockFilter false] }
def openChain : Chain := { criterion := none, filters := [mockFilter true] }
example : check true false [adminChain, openChain] [(B "x-tenant", B "admin")] =
    some { code := cPermissionDenied } := by decide +kernel
example : check true false [adminChain, openChain] [(B "x-tenant", B "other")] =
    some { code := cOK } := by decide +kernel
example : check true false [adminChain] [] = some noChainResp := rfl

/-- `matches` AS TRANSLATED FROM THE GO SOURCE on this run never panics (the only field selection through the
    pointer happens after the nil test) and is the criterion of the model: nil criterion matches everything,
    otherwise equality with - or, when no equality is configured, prefix of - the header looked up under the
    lower-cased configured name. -/
theorem code_matches_spec (env : Go.Env) (m : Pb.Match) (req : Pb.CheckRequest) :
    Code.matches_ env m req = .ok (chainMatches (matchOf m) (httpOf req).GetHeaders) :=
  code_matches env m req

example : Code.matches_ {} { Header := B "X-Tenant", Criteria := .Equality (B "a") }
    { Attributes := { Request := { Http := { Headers := [(B "x-tenant", B "a")] } } } } = .ok true := by decide +kernel

theorem no_hidden_state : FilterInventory := filter_inventory

/-- `Check` AS TRANSLATED FROM THE GO SOURCE is the functional specification `checkSpec` - for every filter object,
    request and handler behaviour, panics of the Go code included (they are `.error` on both sides). -/
theorem code_check_eq_spec (env : Go.Env) (h : Pb.Handlers) (e : Pb.ExtAuthZFilter) (req : Pb.CheckRequest) :
    Code.Check env h e req = checkSpec env h e req := code_check env h e req

/-- On the translated code: a request the trigger rules do not select is allowed at once, no chain being consulted. -/
theorem code_untriggered_allowed (env : Go.Env) (h : Pb.Handlers) (e : Pb.ExtAuthZFilter) (req : Pb.CheckRequest)
    (he : e.isNil = false) (hc : e.cfg.isNil = false)
    (ht : mustTrigger (reOf env) (e.cfg.TriggerRules.map ruleOf) (httpOf req).GetPath = false) :
    Code.Check env h e req = .ok (Code.allow, {}) := by
  rw [code_check]; simp [checkSpec, he, hc, ht]

/-- On the translated code: the FIRST chain, in configuration order, whose criterion the request satisfies judges it,
    and the chains after it are never consulted (the answer does not mention `post`): it is allowed at once when the
    chain has no filters, otherwise the answer is that of the chain's filter loop started on an empty response. -/
theorem code_first_match_wins (env : Go.Env) (h : Pb.Handlers) (e : Pb.ExtAuthZFilter) (req : Pb.CheckRequest)
    (pre post : List Pb.FilterChain) (c : Pb.FilterChain)
    (he : e.isNil = false) (hcfg : e.cfg.isNil = false) (hch : e.cfg.Chains = pre ++ c :: post)
    (ht : mustTrigger (reOf env) (e.cfg.TriggerRules.map ruleOf) (httpOf req).GetPath = true)
    (hpre : ∀ x ∈ pre, x.isNil = false ∧ chainMatches (matchOf x.Match) (httpOf req).GetHeaders = false)
    (hc : c.isNil = false ∧ chainMatches (matchOf c.Match) (httpOf req).GetHeaders = true) :
    Code.Check env h e req =
      if c.Filters.length == 0 then .ok (Code.allow, {}) else runFiltersPb h req c.Filters Pb.CheckResponse.new := by
  rw [code_check]
  simp only [checkSpec, he, hcfg, ht, hch, runChainsPb_first_match env h req pre post c hpre hc, chainStepPb, hc,
    Bool.not_true, Bool.false_eq_true, if_false]
  cases c.Filters.length == 0
  · cases runFiltersPb h req c.Filters Pb.CheckResponse.new <;> rfl
  · rfl

/-- On the translated code: when no chain's criterion is satisfied the request is denied with PermissionDenied
    "no chains matched", unless unmatched requests are explicitly allowed. -/
theorem code_default_deny (env : Go.Env) (h : Pb.Handlers) (e : Pb.ExtAuthZFilter) (req : Pb.CheckRequest)
    (he : e.isNil = false) (hcfg : e.cfg.isNil = false)
    (ht : mustTrigger (reOf env) (e.cfg.TriggerRules.map ruleOf) (httpOf req).GetPath = true)
    (hcs : ∀ x ∈ e.cfg.Chains, x.isNil = false ∧ chainMatches (matchOf x.Match) (httpOf req).GetHeaders = false) :
    Code.Check env h e req =
      .ok (if e.cfg.AllowUnmatchedRequests then (Code.allow, {}) else (Code.deny 7 (B "no chains matched"), {})) := by
  rw [code_check]
  simp [checkSpec, he, hcfg, ht, runChainsPb_none env h req e.cfg.Chains hcs]

/-- On the filter loop `runFiltersPb` of `checkSpec`, which the translated `Check` is (`code_check_eq_spec`; the loop's
    answer is `Check`'s by `code_first_match_wins`): evaluation of the judging chain stops at the first filter that does
    not allow - its response (or, when the handler or its construction failed, the error without a verdict) is returned
    as it is and the filters after it are not run (the answer does not mention `post`). -/
theorem code_stops_at_first_denial (h : Pb.Handlers) (req : Pb.CheckRequest) (pre post : List Pb.Filter) (f : Pb.Filter)
    (r r' : Pb.CheckResponse) (res : Pb.CheckResponse × Go.Error)
    (hpre : AllAllowPb h req pre r r') (hf : filterStepPb h req f r' = .ok (.inl res)) :
    runFiltersPb h req (pre ++ f :: post) r = .ok res := by
  rw [runFiltersPb_append _ hpre, runFiltersPb, hf]

/-- On the same loop: when every filter of the judging chain allows, the answer is the response they accumulated. -/
theorem code_all_allow (h : Pb.Handlers) (req : Pb.CheckRequest) (fs : List Pb.Filter) (r r' : Pb.CheckResponse)
    (hall : AllAllowPb h req fs r r') : runFiltersPb h req fs r = .ok (r', {}) := by
  rw [← fs.append_nil, runFiltersPb_append [] hall]
  rfl

/- Non-vacuity, evaluated by the kernel on the translated `Check`: two chains (criterion x-app = a / no criterion), mock
   handlers that set the status they are configured with. -/
def mockHandlers : Pb.Handlers :=
  { newMock := fun m => { isNil := false, process := fun _ r => ({ r with Status := { Code := if m.GetAllow then 0 else 7 } }, {}) },
    newOIDC := fun _ => ({ isNil := true }, { isNil := false }) }
def twoChains : Pb.ExtAuthZFilter :=
  { cfg := { Chains := [{ Name := B "a", Match := { Header := B "x-app", Criteria := .Equality (B "a") },
                           Filters := [{ Type_ := .Mock ⟨{ Allow := true }⟩ }, { Type_ := .Mock ⟨{ Allow := false }⟩ }] },
                        { Name := B "rest", Filters := [{ Type_ := .Mock ⟨{ Allow := true }⟩ }] }] } }
def reqWithHeader (v : Str) : Pb.CheckRequest := { Attributes := { Request := { Http := { Path := B "/p", Headers := [(B "x-app", v)] } } } }
example : (Code.Check {} mockHandlers twoChains (reqWithHeader (B "a"))).map (fun r => (r.1.Status.Code, r.2.isNil)) = .ok (7, true) := by decide +kernel
example : (Code.Check {} mockHandlers twoChains (reqWithHeader (B "b"))).map (fun r => (r.1.Status.Code, r.2.isNil)) = .ok (0, true) := by decide +kernel

end AuthProps.C08

#print axioms AuthProps.C08.check_eq_judge
#print axioms AuthProps.C08.first_match_wins
#print axioms AuthProps.C08.no_criterion_matches
#print axioms AuthProps.C08.criterion_semantics
#print axioms AuthProps.C08.configured_name_case_irrelevant
#print axioms AuthProps.C08.all_must_allow
#print axioms AuthProps.C08.stops_at_first_denial
#print axioms AuthProps.C08.handler_error_no_verdict
#print axioms AuthProps.C08.default_deny
#print axioms AuthProps.C08.untriggered_allowed
#print axioms AuthProps.C08.code_matches_spec
#print axioms AuthProps.C08.no_hidden_state
#print axioms AuthProps.C08.code_check_eq_spec
#print axioms AuthProps.C08.code_untriggered_allowed
#print axioms AuthProps.C08.code_first_match_wins
#print axioms AuthProps.C08.code_default_deny
#print axioms AuthProps.C08.code_stops_at_first_denial
#print axioms AuthProps.C08.code_all_allow
