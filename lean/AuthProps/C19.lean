/-
  C19  Kubernetes client-secret changes reach exactly the filters that reference them.
-/
import AuthProofs.StateInventory
import AuthProofs.Secret
import AuthProofs.Ladder
import AuthModel.Generated.Facts
namespace AuthProps.C19
open AuthModel AuthModel.Secret

/-- after the reconcile of `ns/name` whose Secret carries a non-empty `client-secret`, every filter indexed under that
    key has that value as its (literal) secret and every other filter is unchanged -/
theorem reconcile_updates_exactly (st : State) (reqNs reqName v : Str) (hv : v ≠ []) (j : Nat) (hj : j < st.filters.length) :
    (reconcile st reqNs reqName (.data (some v))).filters[j]? =
      if (keyOf reqNs reqName, j) ∈ st.index then some (some (.literal v)) else st.filters[j]? :=
  Secret.reconcile_updates_exactly st reqNs reqName v hv j hj

/-- the index built at start-up is exactly: filter j ↦ "currentNamespace/name" for the filters with a named reference -/
theorem index_sound (ns : Str) (fs : List FilterS) (idx : List (Str × Nat)) (h : loadSecrets ns fs 0 = some idx) :
    ∀ k j, (k, j) ∈ idx ↔ ∃ rns name, fs[j]? = some (some (Src.ref rns name)) ∧ name ≠ [] ∧ k = keyOf ns name := by
  intro k j
  rw [Secret.index_sound h k j]
  simp only [List.mem_zipIdx_iff_getElem?]

/-- Secrets in other namespaces / with unrelated names (not in the index), Secrets not found, being deleted, lacking
    the key or holding an empty value leave the configuration untouched -/
theorem reconcile_ignores (st : State) (reqNs reqName : Str) (l : Lookup)
    (h : (∀ i, (keyOf reqNs reqName, i) ∉ st.index) ∨ l = .notFound ∨ l = .deleting ∨ l = .data none ∨ l = .data (some [])) :
    reconcile st reqNs reqName l = st :=
  Secret.reconcile_ignores st reqNs reqName l h

/-- every key of the index is "currentNamespace/name" for some name, so a Secret of another namespace is looked up under
    another key - as long as names hold no `/` (Kubernetes admits none; `keyOf` by itself is not injective) -/
theorem other_namespace_not_indexed (ns : Str) (fs : List FilterS) (idx : List (Str × Nat)) (h : loadSecrets ns fs 0 = some idx)
    (k : Str) (j : Nat) (hk : (k, j) ∈ idx) : ∃ name, k = keyOf ns name := by
  obtain ⟨_, name, _, _, hkk⟩ := (index_sound ns fs idx h k j).mp hk
  exact ⟨name, hkk⟩

/-- cross-namespace references are refused at start-up -/
theorem refuse_cross_namespace (ns : Str) (fs : List FilterS)
    (h : ∃ rns name, some (Src.ref rns name) ∈ fs ∧ name ≠ [] ∧ rns ≠ [] ∧ rns ≠ ns) : loadSecrets ns fs 0 = none :=
  Secret.refuse_cross_namespace ns fs 0 h

/-- rotation: the index survives every reconcile, so over any history of events a filter keeps being reached by the Secret
    it originally referenced -/
theorem rotation_stable (st : State) (events : List (Str × Str × Lookup)) :
    (events.foldl (fun s e => reconcile s e.1 e.2.1 e.2.2) st).index = st.index := by
  induction events generalizing st with
  | nil => rfl
  | cons e es ih => simp only [List.foldl_cons]; rw [ih]; exact (Secret.reconcile_keeps_index st e.1 e.2.1 e.2.2).1

/-- every token request carries the secret the configuration holds at that moment (C04/C11 request theorems) -/
theorem token_request_uses_current (cfg : Cfg) (o : Oracles) (req : Req) (prev : Headers) :
    AllActs (IdpReqOK cfg o req) (Oidc.process cfg o req prev) [] :=
  process_idp_requests cfg o req prev

theorem secret_key_matches_source : Generated.clientSecretKey = "client-secret" := rfl

/- Non-vacuity -/
def fsX : List FilterS := [some (.ref [] (B "s1")), none, some (.ref (B "ns") (B "s2")), some (.ref [] (B "s1")), some (.literal (B "x"))]
example : loadSecrets (B "ns") fsX 0 = some [(B "ns/s1", 0), (B "ns/s2", 2), (B "ns/s1", 3)] := by decide +kernel
example : (reconcile { ns := B "ns", index := [(B "ns/s1", 0), (B "ns/s2", 2), (B "ns/s1", 3)], filters := fsX } (B "ns") (B "s1") (.data (some (B "v")))).filters
    = [some (.literal (B "v")), none, some (.ref (B "ns") (B "s2")), some (.literal (B "v")), some (.literal (B "x"))] := by decide +kernel
example : loadSecrets (B "ns") [some (.ref (B "other") (B "s"))] 0 = none := by decide +kernel

theorem no_hidden_state_infra : InfraInventory := infra_inventory

theorem no_hidden_state : CheckPathInventory := check_path_inventory

end AuthProps.C19

#print axioms AuthProps.C19.reconcile_updates_exactly
#print axioms AuthProps.C19.index_sound
#print axioms AuthProps.C19.reconcile_ignores
#print axioms AuthProps.C19.other_namespace_not_indexed
#print axioms AuthProps.C19.refuse_cross_namespace
#print axioms AuthProps.C19.rotation_stable
#print axioms AuthProps.C19.token_request_uses_current
#print axioms AuthProps.C19.secret_key_matches_source
#print axioms AuthProps.C19.no_hidden_state_infra
#print axioms AuthProps.C19.no_hidden_state
