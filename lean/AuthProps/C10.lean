/-
  C10  Absolute and idle session timeouts are enforced - both stores.
  Memory: AuthModel.MemStore (timeouts checked by `live` on every access).
  Redis: AuthModel.Redis (key TTL set by EXPIREAT ⌊min(created+abs, now+idle)⌋ on every access).
-/
import AuthProofs.StateInventory
import AuthProofs.Memory
import AuthProofs.Redis
import AuthProofs.CodeEquivStore
namespace AuthProps.C10
open AuthModel

/-- NEVER LATE: tokens are returned at `now` only for a session with `now ≤ created + absolute` and
    `now ≤ last use + idle` (for the configured, i.e. non-zero, limits). Any state, any time. -/
theorem memory_never_late_tokens (m : MemStore) (now : Int) (id : Str) (t : Tokens)
    (h : (m.getTok now id).2 = some t) :
    ∃ s, m.sessions id = some s ∧ s.tokens = some t ∧
      (m.abs > 0 → now ≤ s.added + m.abs) ∧ (m.idle > 0 → now ≤ s.accessed + m.idle) :=
  MemStore.read_never_late m now id (·.tokens) t (by rw [MemStore.getTok_eq] at h; exact h)

theorem memory_never_late_login_state (m : MemStore) (now : Int) (id : Str) (a : AuthState)
    (h : (m.getAuth now id).2 = some a) :
    ∃ s, m.sessions id = some s ∧ s.auth = some a ∧
      (m.abs > 0 → now ≤ s.added + m.abs) ∧ (m.idle > 0 → now ≤ s.accessed + m.idle) :=
  MemStore.read_never_late m now id (·.auth) a (by rw [MemStore.getAuth_eq] at h; exact h)

/-- NOT DROPPED INSIDE: a session inside both limits is served; the read counts as a use. -/
theorem memory_not_dropped_inside (m : MemStore) (now : Int) (id : Str) (s : MSess) (hs : m.sessions id = some s)
    (ha : m.abs > 0 → now ≤ s.added + m.abs) (hi : m.idle > 0 → now ≤ s.accessed + m.idle) :
    (m.getTok now id).2 = s.tokens ∧ (m.getTok now id).1.sessions id = some { s with accessed := now } := by
  rw [MemStore.getTok_eq, MemStore.live_eq_some.2 ⟨hs, ha, hi⟩]
  exact ⟨rfl, MemStore.upd_same ..⟩

/-- ACTIVITY EXTENDS ONLY THE IDLE LIMIT, stated for `setTok` (reads: `memory_not_dropped_inside`): a write on a live session
    sets `accessed` and never `added`; a write on an absent or expired id starts a new session created at that moment. -/
theorem memory_activity_keeps_created (m : MemStore) (now : Int) (id : Str) (t : Tokens) :
    (m.setTok now id t).sessions id = some (match (m.live now id).2 with
      | some s => { s with accessed := now, tokens := some t }
      | none => { tokens := some t, auth := none, added := now, accessed := now }) := by
  rw [MemStore.setTok, MemStore.set_eq]
  cases (m.live now id).2 <;> exact MemStore.upd_same ..

/-- zero means "no limit": with both timeouts zero nothing ever expires -/
theorem memory_zero_is_no_limit (m : MemStore) (h0 : m.abs = 0) (h1 : m.idle = 0) (now : Int) (s : MSess) :
    m.expired now s = false := MemStore.expired_noTimeout m h0 h1 now s

/-- the timeouts do not depend on a clean-up routine: the sweep changes nothing that an access would still serve -/
theorem memory_sweep_not_needed (m : MemStore) (now : Int) :
    MemStore.absM (m.removeAllExpired now) now = MemStore.absM m now := MemStore.removeAllExpired_invisible m now

/-- the expiry written by every access is the smaller of creation+absolute and now+idle (over the non-zero ones) -/
theorem redis_ttl_formula (abs idle now ta : Int) (ha : abs ≥ 0) (hi : idle ≥ 0) (h : ¬(abs = 0 ∧ idle = 0)) :
    Redis.expiryTime abs idle now ta =
      if abs = 0 then now + idle else if idle = 0 then ta + abs else min (ta + abs) (now + idle) :=
  Redis.expiryTime_formula abs idle now ta

/-- NEVER LATE (strictly): after an access at `t0` to a key created at `ta`, the server serves the key at `now'`
    only if `now' < ta + absolute` and `now' < t0 + idle`. -/
theorem redis_never_late (abs idle t0 ta now' : Int) (h : RHash)
    (hto : ¬(abs = 0 ∧ idle = 0)) (hf : Redis.hasFields h = true)
    (hv : Redis.hasFields (Redis.visible now' (Redis.refresh abs idle t0 (some ta) h).1) = true) :
    (abs > 0 → now' < ta + abs) ∧ (idle > 0 → now' < t0 + idle) := by
  rw [Redis.visible_refresh abs idle t0 ta now' h hto hf] at hv
  split at hv
  · -- `now'` is before the `EXPIREAT` second, which is not after the computed expiry, which is within both limits
    have lt := Int.lt_of_lt_of_le ‹_ ∧ _›.2 (Redis.floor_bounds (Redis.expiryTime abs idle t0 ta)).1
    have le := Redis.expiryTime_le abs idle t0 ta
    exact ⟨fun ha => Int.lt_of_lt_of_le lt (le.1 ha), fun hi => Int.lt_of_lt_of_le lt (le.2 hi)⟩
  · cases hv

/-- NOT DROPPED INSIDE, one second of granularity aside: one second or more before the computed limit the key is
    still served with all its fields. -/
theorem redis_not_dropped_inside (abs idle t0 ta now' : Int) (h : RHash)
    (hto : ¬(abs = 0 ∧ idle = 0)) (hf : Redis.hasFields h = true) (hge : t0 ≤ now')
    (hin : now' + Redis.sec ≤ Redis.expiryTime abs idle t0 ta) :
    Redis.visible now' (Redis.refresh abs idle t0 (some ta) h).1 =
      { h with expireAt := some (Int.fdiv (Redis.expiryTime abs idle t0 ta) Redis.sec) } := by
  have lt : now' < Int.fdiv (Redis.expiryTime abs idle t0 ta) Redis.sec * Redis.sec :=
    Int.lt_of_add_lt_add_right (Int.lt_of_le_of_lt hin (Redis.floor_bounds _).2)
  rw [Redis.visible_refresh abs idle t0 ta now' h hto hf, if_pos ⟨Int.lt_of_le_of_lt hge lt, lt⟩]

/-- ACTIVITY NEVER MOVES THE CREATION TIME: writes (HSETNX) and reads leave `time_added` of a live key alone, so
    the absolute limit `time_added + absolute` cannot be extended by activity. -/
theorem redis_write_keeps_created (abs idle now : Int) (t : Tokens) (h : RHash) (ta : Int)
    (hta : (Redis.visible now h).timeAdded = some ta) (hf : Redis.hasFields (Redis.setTok abs idle now t h).1 = true) :
    (Redis.setTok abs idle now t h).1.timeAdded = some ta := by
  rw [Redis.setTok, Redis.setTokSteps_run] at hf ⊢
  exact Redis.write_keeps_timeAdded hta hf

theorem redis_login_write_keeps_created (abs idle now : Int) (a : AuthState) (h : RHash) (ta : Int)
    (hta : (Redis.visible now h).timeAdded = some ta) (hf : Redis.hasFields (Redis.setAuth abs idle now a h).1 = true) :
    (Redis.setAuth abs idle now a h).1.timeAdded = some ta := by
  rw [Redis.setAuth, Redis.setAuthSteps_run] at hf ⊢
  exact Redis.write_keeps_timeAdded hta hf

theorem redis_read_keeps_created (parses : Str → Bool) (abs idle now : Int) (h : RHash)
    (hf : Redis.hasFields (Redis.getTok parses abs idle now h).1 = true) :
    (Redis.getTok parses abs idle now h).1.timeAdded = (Redis.visible now h).timeAdded := by
  rw [Redis.getTok_eq_read] at hf ⊢
  exact Redis.read_keeps_timeAdded hf

/-- `SetTokenResponse` re-arms the TTL from the STORED creation time: `refresh` is called with `none`, i.e. reads `time_added`
    (the defect repaired in 23fbd53 passed `now`); this is the definition of `Redis.setTok` unfolded, `setAuth` reads alike -/
theorem redis_write_uses_stored_creation (abs idle now : Int) (t : Tokens) (h : RHash) :
    Redis.setTok abs idle now t h =
      Redis.refresh abs idle now none (Redis.runSteps (Redis.setTokSteps t now) (Redis.visible now h)) := rfl

/- Non-vacuity: absolute 10 s, idle 4 s; created at 0, touched at 3 s: served at 6.9 s, gone at 7 s;
   and a memory session created at 0 with absolute 10 s is live at 10 s and expired at 10 s + 1 ns. -/
def hX : RHash := { idToken := some (B "j"), timeAdded := some 0 }
example : Redis.hasFields (Redis.visible 6900000000 (Redis.refresh 10000000000 4000000000 3000000000 (some 0) hX).1) = true := by decide +kernel
example : Redis.hasFields (Redis.visible 7000000000 (Redis.refresh 10000000000 4000000000 3000000000 (some 0) hX).1) = false := by decide +kernel
def sX : MSess := { tokens := none, auth := none, added := 0, accessed := 0 }
example : (MemStore.empty 10000000000 0).expired 10000000000 sX = false := by decide +kernel
example : (MemStore.empty 10000000000 0).expired 10000000001 sX = true := by decide +kernel

/-! ### the same, about the code as translated from the source (Generated/CodeStore.lean: `memoryStore.live`) -/

/-- THE CODE's `live` - the function every memory-store access goes through - is the model's `live`: it cannot panic on
    a well-formed store, answers "absent" exactly when the model does, deletes exactly the expired session and keeps
    the store well-formed -/
theorem code_live_is_model (env : Go.Env) (m : Pb.MemoryStore) (id : Str) (now : Int)
    (hwf : CodeEquiv.StoreWF m) (hnow : env.now.unixNano = some now) :
    ∃ s m', Code.live env m id = .ok (s, m') ∧
      CodeEquiv.sessOpt s = ((CodeEquiv.storeOf m).live now id).2 ∧
      (CodeEquiv.storeOf m').abs = (CodeEquiv.storeOf m).abs ∧ (CodeEquiv.storeOf m').idle = (CodeEquiv.storeOf m).idle ∧
      (∀ k, (CodeEquiv.storeOf m').sessions k = ((CodeEquiv.storeOf m).live now id).1.sessions k) ∧
      CodeEquiv.StoreWF m' :=
  CodeEquiv.code_live env m id now hwf hnow

/-- THE CODE never hands out a session past its absolute timeout, and drops it -/
theorem code_never_late_absolute (env : Go.Env) (m : Pb.MemoryStore) (id : Str) (now : Int)
    (hwf : CodeEquiv.StoreWF m) (hnow : env.now.unixNano = some now) (s : MSess)
    (hs : (CodeEquiv.storeOf m).sessions id = some s) (habs : m.absoluteSessionTimeout > 0)
    (hlate : s.added + m.absoluteSessionTimeout < now) :
    ∃ r m', Code.live env m id = .ok (r, m') ∧ r.isNil = true ∧ (CodeEquiv.storeOf m').sessions id = none :=
  CodeEquiv.code_live_expired env m id now hwf hnow s hs (by simp [MemStore.expired, CodeEquiv.storeOf, habs, hlate])

/-- THE CODE never hands out a session past its idle timeout, and drops it -/
theorem code_never_late_idle (env : Go.Env) (m : Pb.MemoryStore) (id : Str) (now : Int)
    (hwf : CodeEquiv.StoreWF m) (hnow : env.now.unixNano = some now) (s : MSess)
    (hs : (CodeEquiv.storeOf m).sessions id = some s) (hidle : m.idleSessionTimeout > 0)
    (hlate : s.accessed + m.idleSessionTimeout < now) :
    ∃ r m', Code.live env m id = .ok (r, m') ∧ r.isNil = true ∧ (CodeEquiv.storeOf m').sessions id = none :=
  CodeEquiv.code_live_expired env m id now hwf hnow s hs (by simp [MemStore.expired, CodeEquiv.storeOf, hidle, hlate])

/-- the hypotheses are satisfiable, and the boundary is where the property puts it: at exactly `accessed + idle` the
    session is still served, one nanosecond later it is gone -/
example : CodeEquiv.StoreWF CodeEquiv.exStore ∧
    (Code.live { now := { unixNano := some 250 } } CodeEquiv.exStore (AuthModel.B "s1")).map (fun r => r.1.isNil) = .ok false ∧
    (Code.live { now := { unixNano := some 251 } } CodeEquiv.exStore (AuthModel.B "s1")).map (fun r => r.1.isNil) = .ok true := by
  refine ⟨⟨rfl, ?_⟩, by decide +kernel, by decide +kernel⟩
  intro kv h
  simp [CodeEquiv.exStore] at h
  subst h; simp

theorem no_hidden_state : StoreInventory := store_inventory

end AuthProps.C10

#print axioms AuthProps.C10.memory_never_late_tokens
#print axioms AuthProps.C10.memory_never_late_login_state
#print axioms AuthProps.C10.memory_not_dropped_inside
#print axioms AuthProps.C10.memory_activity_keeps_created
#print axioms AuthProps.C10.memory_zero_is_no_limit
#print axioms AuthProps.C10.memory_sweep_not_needed
#print axioms AuthProps.C10.redis_ttl_formula
#print axioms AuthProps.C10.redis_never_late
#print axioms AuthProps.C10.redis_not_dropped_inside
#print axioms AuthProps.C10.redis_write_keeps_created
#print axioms AuthProps.C10.redis_login_write_keeps_created
#print axioms AuthProps.C10.redis_read_keeps_created
#print axioms AuthProps.C10.redis_write_uses_stored_creation
#print axioms AuthProps.C10.no_hidden_state
#print axioms AuthProps.C10.code_live_is_model
#print axioms AuthProps.C10.code_never_late_absolute
#print axioms AuthProps.C10.code_never_late_idle
