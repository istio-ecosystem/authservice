/-
  C07  Trigger rules decide on the path alone; no bypass through query or fragment.
-/
import AuthProofs.StateInventory
import AuthProofs.Trigger
import AuthProofs.Splitter
import AuthProofs.CodeEquiv
namespace AuthProps.C07
open AuthModel AuthModel.Str

/-- The decision of `mustTriggerCheck` on a raw request target is exactly the documented function of the
    target's path component: no rules, or empty path, or some rule with no matching excluded pattern and
    (no included patterns or a matching one). For every rule set, every target, every regex semantics. -/
theorem trigger_spec (re : ReOracle) (rules : List TriggerRule) (target : Str) :
    mustTrigger re rules target = true ↔ Triggered re rules (pathOf target) := by
  simp [mustTrigger, Triggered, matchTriggerRule_iff, or_assoc]

/-- The path component is the longest prefix of the target without `?` and `#`. -/
theorem path_component (target : Str) :
    pathOf target = target.takeWhile (fun b => b ≠ 63 ∧ b ≠ 35) :=
  pathOf_eq_takeWhile target

/-- Two targets with the same path component get the same decision (the general form). -/
theorem decision_depends_on_path_only (re : ReOracle) (rules : List TriggerRule) (t₁ t₂ : Str)
    (h : pathOf t₁ = pathOf t₂) : mustTrigger re rules t₁ = mustTrigger re rules t₂ := by
  simp only [mustTrigger, h]

/-- Nothing appended after `?` changes the decision. -/
theorem query_irrelevant (re : ReOracle) (rules : List TriggerRule) (p rest : Str)
    (hp : ∀ b ∈ p, b ≠ 63 ∧ b ≠ 35) :
    mustTrigger re rules (p ++ 63 :: rest) = mustTrigger re rules p :=
  decision_depends_on_path_only re rules _ _ (by rw [pathOf_append_sep rest (.inl rfl) hp, pathOf_of_clean hp])

/-- Nothing appended after `#` changes the decision. -/
theorem fragment_irrelevant (re : ReOracle) (rules : List TriggerRule) (p rest : Str)
    (hp : ∀ b ∈ p, b ≠ 63 ∧ b ≠ 35) :
    mustTrigger re rules (p ++ 35 :: rest) = mustTrigger re rules p :=
  decision_depends_on_path_only re rules _ _ (by rw [pathOf_append_sep rest (.inr rfl) hp, pathOf_of_clean hp])

/-- `path?query#fragment` is decided like `path`, whatever query and fragment contain. -/
theorem query_fragment_irrelevant (re : ReOracle) (rules : List TriggerRule) (p q f : Str)
    (hp : ∀ b ∈ p, b ≠ 63 ∧ b ≠ 35) :
    mustTrigger re rules (p ++ 63 :: (q ++ 35 :: f)) = mustTrigger re rules p :=
  query_irrelevant re rules p _ hp

/-- The splitter as written in Go (indices and slice expressions) never slices out of bounds and agrees
    with the `cut` formulation used above. -/
theorem splitter_total (s : Str) : pqfLit s = some (pqf s) := pqfLit_eq s

/- Non-vacuity: a concrete protected path, a concrete rule set with an excluded suffix, and the bypass
   attempt of the original defect; hypotheses of the theorems are met by real inputs. -/
def cssRule : TriggerRule := { excluded := [.sfx (B ".css")], included := [] }
example : mustTrigger (fun _ _ => false) [cssRule] (B "/admin") = true := by decide +kernel
example : mustTrigger (fun _ _ => false) [cssRule] (B "/admin?x=.css") = true := by decide +kernel
example : mustTrigger (fun _ _ => false) [cssRule] (B "/admin#.css") = true := by decide +kernel
example : mustTrigger (fun _ _ => false) [cssRule] (B "/site.css") = false := by decide +kernel
example : ∀ b ∈ (B "/admin"), b ≠ 63 ∧ b ≠ 35 := by decide +kernel

/-! ### The same statements about the code as translated from /repo (AuthModel/Generated/CodeAuthz.lean) -/

/-- `mustTriggerCheck`, `matchTriggerRule`, `stringMatch` and `GetPathQueryFragment` AS TRANSLATED FROM THE GO SOURCE
    on this run never panic and decide exactly the documented function of the path component of the request's
    `:path`: for every rule list (nil rules included), every request (absent parts included), every regex oracle. -/
theorem code_trigger_spec (env : Go.Env) (rules : List Pb.TriggerRule) (req : Pb.CheckRequest) :
    ∃ b, Code.mustTriggerCheck env rules req = .ok b ∧
      (b = true ↔ Triggered (reOf env) (rules.map ruleOf) (pathOf (httpOf req).GetPath)) :=
  ⟨_, code_mustTriggerCheck env rules req, trigger_spec _ _ _⟩

/-- On the translated code: two requests whose targets have the same path component get the same decision, so
    nothing appended after `?` or `#` changes it. -/
theorem code_decision_depends_on_path_only (env : Go.Env) (rules : List Pb.TriggerRule) (r₁ r₂ : Pb.CheckRequest)
    (h : pathOf (httpOf r₁).GetPath = pathOf (httpOf r₂).GetPath) :
    Code.mustTriggerCheck env rules r₁ = Code.mustTriggerCheck env rules r₂ := by
  rw [code_mustTriggerCheck, code_mustTriggerCheck, decision_depends_on_path_only _ _ _ _ h]

/-- On the translated code: the splitter returns (path, query, fragment) of the `cut` formulation for every byte
    string, none of its eight slice expressions going out of bounds. -/
theorem code_splitter (env : Go.Env) (s : Str) : Code.GetPathQueryFragment env s = .ok (pqf s) := code_pqf env s

/- Non-vacuity on the translated code: the bypass attempt of the original defect, evaluated by the kernel. -/
def cssRulePb : Pb.TriggerRule := { ExcludedPaths := [{ MatchType := .Suffix ⟨B ".css"⟩ }] }
def reqWithPath (p : Str) : Pb.CheckRequest := { Attributes := { Request := { Http := { Path := p } } } }
example : Code.mustTriggerCheck {} [cssRulePb] (reqWithPath (B "/admin?x=.css")) = .ok true := by rw [B_ofList]; decide +kernel
example : Code.mustTriggerCheck {} [cssRulePb] (reqWithPath (B "/site.css")) = .ok false := by decide +kernel
example : Code.mustTriggerCheck {} [cssRulePb] { isNil := true } = .ok true := by decide +kernel

theorem no_hidden_state : FilterInventory := filter_inventory

end AuthProps.C07

#print axioms AuthProps.C07.trigger_spec
#print axioms AuthProps.C07.path_component
#print axioms AuthProps.C07.query_irrelevant
#print axioms AuthProps.C07.fragment_irrelevant
#print axioms AuthProps.C07.query_fragment_irrelevant
#print axioms AuthProps.C07.decision_depends_on_path_only
#print axioms AuthProps.C07.splitter_total
#print axioms AuthProps.C07.code_trigger_spec
#print axioms AuthProps.C07.code_decision_depends_on_path_only
#print axioms AuthProps.C07.code_splitter
#print axioms AuthProps.C07.no_hidden_state
