/-
  C18  OIDC filters are isolated from one another.
  On the unchanged tree the statement does NOT hold in general (shared stores; recorded as known findings). What is
  proved: the handler uses its own filter's configuration only; filters that resolve to DIFFERENT stores are
  isolated; and every cross-filter acceptance has the recorded shape (same store + the session id presented under
  the other filter's cookie name), so that any other leak is still reported.
-/
import AuthProofs.StateInventory
import AuthModel.Factory
import AuthProofs.Ladder
namespace AuthProps.C18
open AuthModel AuthModel.Oidc AuthModel.Factory

/-- a check of filter `g` reads and writes only through `g`'s own configuration: cookie name, endpoints, client id and
    secret, token headers are `cfg`'s (the interaction tree is a function of `cfg`, the oracles and the request) -/
theorem own_config_governs (cfg : Cfg) (o : Oracles) (req : Req) (prev : Headers) :
    AllActs (IdpReqOK cfg o req) (process cfg o req prev) [] ∧ AllActs (WriteOK cfg o req) (process cfg o req prev) [] :=
  ⟨process_idp_requests cfg o req prev, process_writes cfg o req prev⟩

/-- ISOLATION BY STORE. The statement is about ONE filter (`cfg`): it answers OK only if ITS store returned tokens under the
    id presented under ITS cookie name. The reading for two filters is an argument on top of it, not part of the statement:
    if `f` and `g` resolve to different stores, nothing `f` wrote is in `g`'s store, so no session created through `f` is
    honoured by `g`, however the client names its cookies. -/
theorem ok_needs_tokens_in_own_store (cfg : Cfg) (o : Oracles) (req : Req) (prev : Headers) :
    AllPaths (fun tr r => r.code = cOK →
      ∃ t, (Act.getTok (sessionIdFromCookie cfg req.cookie), ARes.tok (.ok (some t))) ∈ tr) (process cfg o req prev) [] :=
  process_ok_reads_tokens cfg o req prev

/-- The contrapositive of `ok_needs_tokens_in_own_store`, again about one filter: whenever its store does not return tokens
    for the id presented under its cookie name, it does not answer OK. Read for two filters (the recorded findings): that is
    necessarily so when the session was created through a filter that resolves to a DIFFERENT store; hence a session of
    `f ≠ g` is honoured by `g` only if both resolve to the same store and the client presented `f`'s session id under `g`'s
    cookie name. -/
theorem cross_filter_characterisation (cfg : Cfg) (o : Oracles) (req : Req) (prev : Headers) :
    AllPaths (fun tr r =>
      (∀ t, (Act.getTok (sessionIdFromCookie cfg req.cookie), ARes.tok (.ok (some t))) ∉ tr) → r.code ≠ cOK)
      (process cfg o req prev) [] :=
  allPaths_mono (fun _ _ h hno hc => (h hc).elim hno) (process_ok_reads_tokens cfg o req prev)

/-- which store a filter gets: its Redis URI if one is configured (stores are shared per URI), else the one shared
    in-memory store -/
theorem store_assignment (b : Built) (f : FilterStore) :
    get b f = if b.redis.any (·.1 == f.redisUri) then .redis f.redisUri else .memory := rfl

/-- the in-memory store is constructed with the timeouts of the FIRST non-Redis filter; later filters' timeouts are
    ignored (recorded finding "timeouts of the constructing filter govern") -/
theorem memory_timeouts_first_filter (f : FilterStore) (fs : List FilterStore) (hf : f.redisUri = []) :
    (preRun (f :: fs) { memory := none, redis := [] }).memory = some (f.abs, f.idle) := by
  have keep : ∀ (l : List FilterStore) (b : Built) (v : Nat × Nat), b.memory = some v → (preRun l b).memory = some v := by
    intro l
    induction l with
    | nil => intro b v h; exact h
    | cons x xs ih =>
      intro b v h
      unfold preRun
      split
      · exact ih _ v h
      · simp only [h, Option.isNone_some, Bool.false_eq_true, if_false]; exact ih _ v h
  unfold preRun
  simp only [hf, ne_eq, not_true_eq_false, if_false, Option.isNone_none, if_true]
  exact keep fs _ _ rfl

/- Negative witnesses (kernel-checked): two memory-backed filters share one store, built with the first one's timeouts -/
def fA : FilterStore := { redisUri := [], abs := 0, idle := 0 }
def fB : FilterStore := { redisUri := [], abs := 60, idle := 0 }
def built := preRun [fA, fB] { memory := none, redis := [] }
theorem shared_memory_store : get built fA = get built fB := by decide +kernel
theorem second_filter_timeouts_ignored : timeoutsOf built (get built fB) = some (0, 0) := by decide +kernel
/-- two different Redis URIs (also: two databases of one server) are different stores -/
example : get (preRun [⟨B "redis://h/0", 0, 0⟩, ⟨B "redis://h/1", 5, 0⟩] { memory := none, redis := [] }) ⟨B "redis://h/0", 0, 0⟩
    ≠ get (preRun [⟨B "redis://h/0", 0, 0⟩, ⟨B "redis://h/1", 5, 0⟩] { memory := none, redis := [] }) ⟨B "redis://h/1", 5, 0⟩ := by decide +kernel

theorem no_hidden_state : CheckPathInventory := check_path_inventory

end AuthProps.C18

#print axioms AuthProps.C18.own_config_governs
#print axioms AuthProps.C18.ok_needs_tokens_in_own_store
#print axioms AuthProps.C18.cross_filter_characterisation
#print axioms AuthProps.C18.store_assignment
#print axioms AuthProps.C18.memory_timeouts_first_filter
#print axioms AuthProps.C18.shared_memory_store
#print axioms AuthProps.C18.second_filter_timeouts_ignored
#print axioms AuthProps.C18.no_hidden_state
