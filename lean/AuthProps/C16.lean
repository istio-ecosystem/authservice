/-
  C16  Concurrent checks and background updates are free of data races.
  PARTIAL. Not "the binary has no race", but (i) a theorem about lock-based executions and (ii) its instantiation on
  an access table REGENERATED from the source on every run; every other runtime write to shared state is classified
  in a hand-written expectation table, so a new shared write or a removed lock breaks an obligation here. The dynamic
  race detector run (thorough tier) is the search for a concrete race and the validation of the table.
-/
import AuthProofs.Lockset
import AuthModel.Generated.Facts
namespace AuthProps.C16
open AuthModel AuthModel.Lockset

/-- LOCKSET SOUNDNESS: in any well-formed trace of acquire/release/read/write events (any number of threads, locks and
    events), two accesses by different threads made while holding one common lock are ordered by happens-before
    (program order ∪ unlock→lock). So a location all of whose accesses hold a common lock has no data race. -/
theorem lockset_sound (tr : List Ev) (hwf : WF tr) (L i j : Nat) (ei ej : Ev) (hij : i < j)
    (hi : tr[i]? = some ei) (hj : tr[j]? = some ej) (hai : ei.loc.isSome) (haj : ej.loc.isSome)
    (hgi : holders (tr.take i) L = some ei.tid) (hgj : holders (tr.take j) L = some ej.tid) : HB tr i j :=
  Lockset.lockset_sound tr hwf L i j ei ej hij hi hj hai haj hgi hgj

/-- helpers that document "the caller must hold the lock" -/
def lockRequiredHelpers : List (String × String) := [("memoryStore", "live")]

/-- LOCK DISCIPLINE (regenerated access table): every read/write of a mutex-guarded map field (memoryStore.sessions,
    tlsConfigPool.configs, FileWatcher.watchers) happens with the struct's mutex held, or inside a helper documented as
    lock-required, ALL of whose call sites hold the mutex. -/
theorem lock_discipline :
    (Generated.lockTable.all fun e =>
      if e.2.2.2.1 == "call" then
        -- a call of a lock-required helper must hold the lock
        !(lockRequiredHelpers.any fun h => h.1 == e.1 && ("call:" ++ h.2) == e.2.2.1) || e.2.2.2.2
      else
        e.2.2.2.2 || lockRequiredHelpers.any fun h => h.1 == e.1 && h.2 == e.2.1) = true := by decide +kernel

/-- the package-level discovery cache is only touched under its mutex (repaired in 9b87d58) -/
theorem package_maps_guarded :
    Generated.packageMaps = [("oidc/discovery.go", "wellKnownConfigs")] ∧
    (Generated.packageMapAccess.all fun e => e.2.2.2.2) = true := by decide +kernel

/-- EVERY other runtime write through shared configuration objects, classified. A new one changes this list and
    breaks the obligation.
      loadWellKnownConfig: 5 writes into the shared OIDCConfig on every check with discovery  - KNOWN RACE (finding)
      SecretController.Reconcile: ClientSecretConfig while checks read it                     - KNOWN RACE (finding)
      LoadTLSConfig: fields of a tls.Config not yet published to the pool                     - construction-local
      updateCA: RootCAs of a tls.Config that live transports read                             - KNOWN RACE (finding) -/
theorem shared_writes_classified :
    Generated.sharedConfigWrites =
      [("authz/oidc.go:loadWellKnownConfig", "cfg.AuthorizationUri"), ("authz/oidc.go:loadWellKnownConfig", "cfg.TokenUri"),
       ("authz/oidc.go:loadWellKnownConfig", "cfg.JwksConfig"), ("authz/oidc.go:loadWellKnownConfig", "cfg.GetJwksFetcher().JwksUri"),
       ("authz/oidc.go:loadWellKnownConfig", "cfg.GetLogout().RedirectUri"),
       ("k8s/secret_controller.go:SecretController.Reconcile", "oidcConfig.ClientSecretConfig"),
       ("tls.go:tlsConfigPool.LoadTLSConfig", "tlsConfig.InsecureSkipVerify"), ("tls.go:tlsConfigPool.LoadTLSConfig", "tlsConfig.RootCAs"),
       ("tls.go:tlsConfigPool.updateCA", "tlsConfig.RootCAs")] := rfl

/-- Where a `*tls.Config` is installed into an `http.Transport`. net/http assigns `TLSClientConfig.NextProtos` on the
    first round trip of EVERY transport (`onceSetNextProtoDefaults`: "Server.ServeTLS clones the tls.Config before
    modifying it. Transport doesn't."), so the one site below - which installs the POOLED config, uncloned, into the
    transport built for each check - is a KNOWN RACE (finding C16-pooled-tlsconfig-nextprotos). A second site, or a
    changed right-hand side, breaks this obligation. -/
theorem tls_config_aliases_classified :
    Generated.tlsConfigAliases = [("http/http.go:NewHTTPClient", "tlsPool.LoadTLSConfig(cfg)")] := rfl

/-- single-threaded by construction: start-up phases (before any check is served) and the lock-required helper -/
def startupOrHelper : List (String × String) :=
  [("k8s/secret_controller.go", "SecretController.loadSecrets"), ("oidc/session.go", "sessionStoreFactory.PreRun"),
   ("oidc/memory.go", "memoryStore.live")]

/-- EVERY write to a map that hangs off a struct field, anywhere under internal/ (regenerated): it happens with a mutex
    held, in a constructor, in a start-up phase, or in the lock-required helper (whose callers `lock_discipline` covers).
    A cache added to a long-lived object - e.g. handlers memoised per chain in the ext_authz filter - and filled
    without a lock shows up here. -/
theorem field_maps_guarded :
    (Generated.fieldMapWrites.all fun e => e.2.2.2.2 || startupOrHelper.any fun h => h.1 == e.1 && h.2 == e.2.1) = true := by
  decide +kernel

/-- the Redis store keeps no mutable state of its own (no field is assigned outside the constructor) -/
theorem redis_store_stateless : Generated.redisFieldWrites = [] := rfl

/- Non-vacuity: a two-thread trace in which both accesses to location 7 hold lock 1 -/
def trX : List Ev := [.acq 1 1, .wr 1 7, .rel 1 1, .acq 2 1, .rd 2 7, .rel 2 1]
example : WF trX := by
  intro i
  match i with
  | 0 | 2 | 3 | 5 => exact rfl       -- the acquires and releases: the holder before them, by computation
  | 1 | 4 => exact trivial
  | (n + 6) => exact trivial
example : holders (trX.take 1) 1 = some 1 ∧ holders (trX.take 4) 1 = some 2 := by decide +kernel

end AuthProps.C16

#print axioms AuthProps.C16.lockset_sound
#print axioms AuthProps.C16.lock_discipline
#print axioms AuthProps.C16.package_maps_guarded
#print axioms AuthProps.C16.shared_writes_classified
#print axioms AuthProps.C16.tls_config_aliases_classified
#print axioms AuthProps.C16.field_maps_guarded
#print axioms AuthProps.C16.redis_store_stateless
