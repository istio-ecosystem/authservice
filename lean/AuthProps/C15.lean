/-
  C15  No request, IdP answer or store answer can crash a check.
  Lean functions are total, so totality proves nothing about Go. What is proved: (1) every path of the model ends in
  a well-formed verdict; (2) the Go slice expressions of the splitter stay in bounds; (3) the inventory of
  panic-capable sites regenerated from the source is exactly the expected one, each entry discharged by a named argument
  (the inventory is what tools/factgen records in six files of the Check path: unchecked type assertions, explicit panics, all
  slice expressions, and index expressions whose index is a literal or mentions `len(`, `Intn` or `%` - not every `s[i]`); (4) on the code as translated from the
  source, where every operation that can panic is partial: the splitter, the trigger rules and `matches` return a value
  for every input (`code_trigger_path_never_panics`), so does the loader's URL validation, given that `url.Parse`
  returns a URL whenever it returns no error (`code_loader_urls_never_panic`), and so does `Check` itself under a
  loaded configuration and handlers that set a status (`code_check_never_panics`).
-/
import AuthProofs.StateInventory
import AuthProofs.Ladder
import AuthProofs.Splitter
import AuthProofs.CodeEquiv
import AuthProofs.CodeEquivCheck
import AuthModel.Generated.Facts
import AuthProofs.CodeEquivUrls
namespace AuthProps.C15
open AuthModel AuthModel.Oidc

theorem verdict_wellformed (cfg : Cfg) (o : Oracles) (req : Req) (prev : Headers) :
    AllPaths (fun _ r => WellFormed r) (process cfg o req prev) [] :=
  allPaths_mono (fun _ _ h => by
    cases h with
    | denied c hc => exact .inr ⟨deny_code_ne_ok hc, _, rfl⟩
    | ok => exact .inl ⟨rfl, _, rfl⟩
    | _ => exact .inr ⟨unauthenticated_ne_ok, _, rfl⟩) (process_shapes cfg o req prev)

/-- the non-string nonce claim (formerly a panic) is an invalid token -/
theorem nonstring_nonce_is_invalid (a : TokAttrs) (en : Str) (nr : Bool) (h : a.nonce = .other) :
    nonceAccepted a en nr = false := by simp [nonceAccepted, h]

/-- the splitter's slice expressions never go out of bounds -/
theorem splitter_in_bounds (s : Str) : pqfLit s = some (pqf s) := pqfLit_eq s

/-- PANIC-SITE INVENTORY (regenerated). Unchecked type assertions on the Check/Validate paths: exactly two, both on
    values whose dynamic type is fixed by the library (http.DefaultTransport is *http.Transport; proto.Clone returns
    the type of its argument). None in oidc.go any more (the nonce assertion is comma-ok since a7e937d). -/
theorem no_unexpected_type_assertions :
    Generated.typeAssertsNoOk =
      [("http/http.go:NewHTTPClient", "http.DefaultTransport.(*http.Transport)"),
       ("config.go:mergeAndValidateOIDCConfigs", "proto.Clone(cfg.DefaultOidcConfig).(*oidcv1.OIDCConfig)")] := rfl

/-- the recorded index/slice expressions (see the header for what is recorded): the eight slices of GetPathQueryFragment
    (in bounds by `splitter_in_bounds`) and parts[0], parts[1] guarded by `len(parts) != 2` -/
theorem no_unexpected_index_or_slice :
    Generated.indexSliceSites.map (·.1) =
      ["http/http.go:GetPathQueryFragment", "http/http.go:GetPathQueryFragment", "http/http.go:GetPathQueryFragment",
       "http/http.go:GetPathQueryFragment", "http/http.go:GetPathQueryFragment", "http/http.go:GetPathQueryFragment",
       "http/http.go:GetPathQueryFragment", "http/http.go:GetPathQueryFragment",
       "http/http.go:DecodeCookiesHeader", "http/http.go:DecodeCookiesHeader"] := rfl

theorem no_explicit_panics : Generated.explicitPanics = [] := rfl

/-- On the code AS TRANSLATED FROM THE GO SOURCE on this run (every slice expression, index expression and field
    selection through a pointer is a partial operation of the translation): the request-dependent pure functions of
    the Check path return a value - they do not panic - for EVERY input, including nil messages at every level of the
    request, nil rules, nil criteria and arbitrary bytes. -/
theorem code_trigger_path_never_panics (env : Go.Env) (rules : List Pb.TriggerRule) (m : Pb.Match) (req : Pb.CheckRequest)
    (s : Str) :
    (∃ r, Code.GetPathQueryFragment env s = .ok r) ∧ (∃ b, Code.mustTriggerCheck env rules req = .ok b) ∧
    (∃ b, Code.matches_ env m req = .ok b) :=
  ⟨⟨_, code_pqf env s⟩, ⟨_, code_mustTriggerCheck env rules req⟩, ⟨_, code_matches env m req⟩⟩

/-- THE CODE's URL validation at load time never panics, whatever the configuration: `hasRootPath` dereferences the URL
    `url.Parse` returned without looking at the error, and is safe only because its one call site runs after
    `validateURL` accepted the same string (a reordering breaks this theorem) -/
theorem code_loader_urls_never_panic (env : Go.Env) (c : Pb.OIDCConfig) (hcoh : CodeEquiv.UrlParseCoherent env) :
    ∃ r, Code.validateOIDCConfigURLs env c = .ok r := by
  obtain ⟨e, c', h, _⟩ := CodeEquiv.code_validate_urls env c hcoh
  exact ⟨_, h⟩


theorem no_hidden_state : CheckPathInventory := check_path_inventory

/-- `ExtAuthZFilter.Check` AS TRANSLATED FROM THE GO SOURCE on this run returns - a verdict or an error, never a panic -
    for EVERY request (absent parts, arbitrary bytes), provided the filter object carries a loaded configuration (no nil
    messages in its repeated fields, every filter a mock or an OIDC filter: C17) and the handlers satisfy `HandlersWF` (an
    error, or a non-nil response whose status is set, for every response given - see there for how the handlers of the code
    base stand to it). The partial operations of the
    translation that this discharges: the selections through `e.cfg`, `c.Match`, `c.Filters`, `f.Type`, the call through
    the interface value `h` (nil when the filter type is unknown), and `resp.Status.Code`. -/
theorem code_check_never_panics (env : Go.Env) (h : Pb.Handlers) (hw : HandlersWF h) (e : Pb.ExtAuthZFilter)
    (req : Pb.CheckRequest) (he : e.isNil = false) (hc : e.cfg.isNil = false)
    (hcs : ∀ c ∈ e.cfg.Chains, c.isNil = false ∧ FiltersWF c.Filters) :
    ∃ v, Code.Check env h e req = .ok v := by
  rw [code_check]; exact checkSpec_ok env h hw e req he hc hcs

/-- and the hypothesis on the filter type is needed: a filter whose type `Check` does not know leaves the handler nil,
    and the call through it is a nil dereference (kernel-evaluated on the translated code; neither constructor of the
    `Handlers` given is called) -/
example : Code.Check {} { newMock := fun _ => {}, newOIDC := fun _ => ({}, {}) }
    { cfg := { Chains := [{ Filters := [{ Type_ := .Other }] }] } } {} = .error "invalid memory address or nil pointer dereference" := by decide +kernel

end AuthProps.C15

#print axioms AuthProps.C15.verdict_wellformed
#print axioms AuthProps.C15.nonstring_nonce_is_invalid
#print axioms AuthProps.C15.splitter_in_bounds
#print axioms AuthProps.C15.no_unexpected_type_assertions
#print axioms AuthProps.C15.no_unexpected_index_or_slice
#print axioms AuthProps.C15.no_explicit_panics
#print axioms AuthProps.C15.code_trigger_path_never_panics
#print axioms AuthProps.C15.no_hidden_state
#print axioms AuthProps.C15.code_check_never_panics
#print axioms AuthProps.C15.code_loader_urls_never_panic
